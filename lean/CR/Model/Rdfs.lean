/-
Executable model of `reverse_dfs.py` (working tree): reversed-transition table and the
backward search with a visited set and an explicit stack.

A transition list is abstracted to its targets: `List (List Nat)` (the labels play no role in
this file).  Domain: every target and every final state is `< tl.length` (what
`StochasticGame.check_game` / `Node.check_next_states` guarantee before the search is
called).  No Mathlib import.
-/

namespace CR

/-- `reverse_transition_list_core`: one pair `(next_state, current_state)` per transition, in
order of appearance -/
def revCore (tl : List (List Nat)) : List (Nat × Nat) :=
  tl.zipIdx.flatMap (fun (row, u) => row.map (fun v => (v, u)))

/-- `list_of_tuples_to_dict_of_lists` + `add_missing_states`, as an array indexed by state
(a Python dict with exactly the keys `0..n-1`; value lists in insertion order) -/
def revTable (tl : List (List Nat)) : Array (List Nat) :=
  (revCore tl).foldl (fun tab (v, u) => tab.setIfInBounds v (tab.getD v [] ++ [u]))
    (Array.replicate tl.length [])

/-- number of states of `0..n-1` not yet visited -/
def unvisited (n : Nat) (acc : List Nat) : Nat :=
  ((List.range n).filter (fun v => !acc.contains v)).length

/-- the counting step behind the termination measure of `dfsLoop` (`key := id`, `l` the states) and behind the
fuel bound of the translated loop (CR/Tie/RdfsLoop.lean: `l` the transitions, `key` their targets) -/
theorem length_filter_unvisited_cons {β : Type} (key : β → Nat) (l : List β) {s : Nat} {acc : List Nat}
    (h : acc.contains s = false) :
    (l.filter (fun x => !(s :: acc).contains (key x))).length + (l.filter (fun x => key x == s)).length
      = (l.filter (fun x => !acc.contains (key x))).length := by
  induction l with
  | nil => rfl
  | cons x xs ih =>
    simp only [List.filter_cons, List.contains_cons] at ih ⊢
    by_cases hx : key x = s
    · subst hx
      simp only [beq_self_eq_true, Bool.true_or, Bool.not_true, h, Bool.not_false, if_true, List.length_cons,
        Bool.false_eq_true, if_false]
      omega
    · have hx' : (key x == s) = false := beq_false_of_ne hx
      cases hc : acc.contains (key x) <;>
        simp only [hx', Bool.false_or, Bool.not_true, Bool.not_false, if_true, List.length_cons,
          Bool.false_eq_true, if_false] <;> omega

theorem unvisited_cons_lt {n s : Nat} {acc : List Nat} (hs : s < n) (hna : acc.contains s = false) :
    unvisited n (s :: acc) < unvisited n acc := by
  have h := length_filter_unvisited_cons id (List.range n) hna
  have h1 : 0 < ((List.range n).filter (fun x => x == s)).length :=
    List.length_pos_of_mem (List.mem_filter.2 ⟨List.mem_range.2 hs, beq_self_eq_true s⟩)
  simp only [id] at h
  unfold unvisited
  omega

/-- the `while pending:` loop of `reverse_dfs_recursive`: `stack` is `pending` (head = top),
`acc` the states collected so far (most recent first; order is irrelevant downstream) -/
def dfsLoop (rev : Array (List Nat)) (stack : List Nat) (acc : List Nat) : List Nat :=
  match stack with
  | [] => acc
  | s :: rest =>
    if acc.contains s then dfsLoop rev rest acc
    else dfsLoop rev (rev.getD s [] ++ rest) (s :: acc)
termination_by (unvisited rev.size acc, stack.length)
decreasing_by
  · exact Prod.Lex.right _ (by simp)
  · rename_i hc
    by_cases hs : s < rev.size
    · exact Prod.Lex.left _ _ (unvisited_cons_lt hs (by simpa using hc))
    · have hempty : rev.getD s [] = [] := by
        simp [Array.getD, hs]
      have hsame : unvisited rev.size (s :: acc) = unvisited rev.size acc := by
        unfold unvisited
        congr 1
        apply List.filter_congr
        intro v hv
        have hv' : v < rev.size := by simpa using hv
        have hne : ¬ v = s := by omega
        simp [hne]
      rw [hempty, hsame]
      exact Prod.Lex.right _ (by simp)

/-- `reverse_dfs`: search from every final state, drop the finals, sort -/
def reverseDfs (tl : List (List Nat)) (finals : List Nat) : List Nat :=
  let rev := revTable tl
  let all := finals.foldl (fun acc f => dfsLoop rev [f] acc) []
  (all.filter (fun s => !finals.contains s)).mergeSort (fun a b => a ≤ b)

end CR
