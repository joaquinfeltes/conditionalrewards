/-
C17: generated file names identify the parameters that produced them: a probability given as
`k/100` always appears as `k`, and two different whole-percent parameter sets never share a file
(model: `CR/Model/Gen.lean`; helper lemmas: `CR/Lemmas/Names.lean`).

`Float` is Lean's IEEE-754 binary64; the table facts below are evaluated by the kernel
(`decide +kernel`) on real doubles for *every* `k` of the quantifier, not on a sample.
-/
import CR.Lemmas.Names

namespace CR.C17

open CR CR.Gen CR.NamesLemmas

/-- rounding and truncation in one table: the kernel computes the double `k/100·100` once per row for
both -/
private theorem percent_table : ∀ k ∈ List.range 100,
    probToNat (Float.ofNat k / 100) = k ∧
    (((Float.ofNat k / 100) * 100).toUInt64.toNat != k) = decide (k ∈ [29, 57, 58]) := by
  decide +kernel

/-- 1. a probability given as `k/100` (the double nearest to it, as Python computes `k/100`)
is rendered as `k`, for every whole percent `1 ≤ k ≤ 99` -/
theorem percent_exact (k : Nat) (h1 : 1 ≤ k) (h2 : k ≤ 99) :
    probToNat (Float.ofNat k / 100) = k :=
  (percent_table k (List.mem_range.2 (by omega))).1

/-- 1b. why rounding (and not truncation `int(p*100)`) is needed: truncation is wrong exactly for
29, 57 and 58 percent -/
theorem truncation_wrong :
    (List.range 100).filter (fun k => ((Float.ofNat k / 100) * 100).toUInt64.toNat != k)
      = [29, 57, 58] :=
  (List.filter_congr fun k hk => (percent_table k hk).2).trans (by decide +kernel)

/-- 2. the name states the parameters: whole-percent probabilities appear as their percentage
(`fileName` takes `pRobot pLight pTile pLoose`, rendered after `rb`, `lb`, `tb`, `lt`) -/
theorem name_states_params (seed w l m k1 k2 k3 k4 : Nat) (fd : Bool)
    (h1 : 1 ≤ k1 ∧ k1 ≤ 99) (h2 : 1 ≤ k2 ∧ k2 ≤ 99) (h3 : 1 ≤ k3 ∧ k3 ≤ 99)
    (h4 : 1 ≤ k4 ∧ k4 ≤ 99) :
    fileName seed w l m (Float.ofNat k1 / 100) (Float.ofNat k2 / 100) (Float.ofNat k3 / 100)
        (Float.ofNat k4 / 100) fd
      = fileNameN seed w l m k1 k2 k3 k4 fd := by
  rw [fileName_eq_fileNameN, percent_exact k1 h1.1 h1.2, percent_exact k2 h2.1 h2.2,
    percent_exact k3 h3.1 h3.2, percent_exact k4 h4.1 h4.2]

/-- 3. the name determines every field, including the `_force_down` flag -/
theorem name_injective {s w l m a b c d s' w' l' m' a' b' c' d' : Nat} {fd fd' : Bool}
    (h : fileNameN s w l m a b c d fd = fileNameN s' w' l' m' a' b' c' d' fd') :
    s = s' ∧ w = w' ∧ l = l' ∧ m = m' ∧ a = a' ∧ b = b' ∧ c = c' ∧ d = d' ∧ fd = fd' :=
  fileNameN_injective h

/-- 4. two whole-percent parameter sets that get the same file are equal -/
theorem name_injective_percent {s w l m a b c d s' w' l' m' a' b' c' d' : Nat} {fd fd' : Bool}
    (ha : 1 ≤ a ∧ a ≤ 99) (hb : 1 ≤ b ∧ b ≤ 99) (hc : 1 ≤ c ∧ c ≤ 99) (hd : 1 ≤ d ∧ d ≤ 99)
    (ha' : 1 ≤ a' ∧ a' ≤ 99) (hb' : 1 ≤ b' ∧ b' ≤ 99) (hc' : 1 ≤ c' ∧ c' ≤ 99)
    (hd' : 1 ≤ d' ∧ d' ≤ 99)
    (h : fileName s w l m (Float.ofNat a / 100) (Float.ofNat b / 100) (Float.ofNat c / 100)
          (Float.ofNat d / 100) fd
        = fileName s' w' l' m' (Float.ofNat a' / 100) (Float.ofNat b' / 100)
          (Float.ofNat c' / 100) (Float.ofNat d' / 100) fd') :
    s = s' ∧ w = w' ∧ l = l' ∧ m = m' ∧ a = a' ∧ b = b' ∧ c = c' ∧ d = d' ∧ fd = fd' := by
  rw [name_states_params _ _ _ _ _ _ _ _ _ ha hb hc hd,
    name_states_params _ _ _ _ _ _ _ _ _ ha' hb' hc' hd'] at h
  exact name_injective h

/- The names are compared with the literals character by character (`fileNameN_toList`, and
`String.toList_ofList` on the literal): the doubles and the digits are still evaluated by the kernel, the
strings are not. -/
example : fileName 47 5 5 6 0.1 0.1 0.1 0.3 false
    = "inputs/robot_47_w5_l5_r6_rb10_lb10_tb10_lt30.py" := by
  rw [fileName_eq_fileNameN, ← String.toList_inj, fileNameN_toList, suffix, if_neg Bool.false_ne_true]
  repeat rw [String.toList_ofList]
  decide +kernel

example : fileName 47 5 5 6 (Float.ofNat 29 / 100) (Float.ofNat 57 / 100) (Float.ofNat 58 / 100)
    (Float.ofNat 1 / 100) true
    = "inputs/robot_47_w5_l5_r6_rb29_lb57_tb58_lt1_force_down.py" := by
  rw [fileName_eq_fileNameN, ← String.toList_inj, fileNameN_toList, suffix, if_pos rfl]
  repeat rw [String.toList_ofList]
  decide +kernel

example : fileNameN 47 5 5 6 10 10 10 30 true
    = "inputs/robot_47_w5_l5_r6_rb10_lb10_tb10_lt30_force_down.py" := by
  rw [← String.toList_inj, fileNameN_toList, suffix, if_pos rfl]
  repeat rw [String.toList_ofList]
  decide +kernel

/-- the literal `0.29` is the same double as `29/100` -/
example : (0.29 : Float) = Float.ofNat 29 / 100 := by decide +kernel

/-- the flag alone separates two names -/
example : fileNameN 1 2 3 4 5 6 7 8 true ≠ fileNameN 1 2 3 4 5 6 7 8 false :=
  fun h => Bool.noConfusion (name_injective h).2.2.2.2.2.2.2.2

/-- outside whole percents two different parameters may share a name (so 4 needs its
hypotheses): 0.101 and 0.1 both render as 10 -/
example : probToNat 0.101 = probToNat 0.1 := by decide +kernel

end CR.C17
