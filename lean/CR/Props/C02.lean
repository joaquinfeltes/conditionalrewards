/-
Property C02: the expected rewards reported by `solve`.

"Reported expected rewards are the values of the conditioned game … for … games which need not
be stopping, the same claim in its Bellman-consistency form (the reported vector is a fixed point
of the conditioned game's reward equations up to the threshold)."

The loop of the reward phase stops on the RESIDUAL (the change of the last Gauss–Seidel sweep),
so the tolerance-to-the-true-value form is false for this algorithm (known finding); what is
proved here is the Bellman-consistency form and the supporting facts, for an arbitrary `.ok`
outcome `H : solve rnd thr fuel prune g = .ok out` (arbitrary rounding function, threshold, fuel,
pruning flag) over an arbitrary linearly ordered field `K`.

Vocabulary (defined in `CR/Lemmas/RewStep.lean`; helper lemmas there and in `CR/Lemmas/Rew.lean`):
* `Brew owners rewards nodes x s`: the reward Bellman operator of the game with transition lists
  `nodes`, defined independently of the model's `stepRew`:
  `0` if `nodes[s] = []`; `r_s + Σ x[t]·p` (probabilistic); `r_s + max(0, max_t x[t])`
  (Player 1, clamped below by 0 as the code does); `r_s + min_t x[t]` (Player 2);
* `NodesWF owners nodes`: the row of every probabilistic state is empty or a distribution
  (`p ≥ 0`, `Σ p = 1`) — which is what conditioning produces (`nodesWF_of_game`).
-/
import CR.Lemmas.Rew

namespace CR.C02

open CR CR.VI CR.Rew

variable {K : Type} [Field K] [LinearOrder K] [IsStrictOrderedRing K]

/-- `Brew` spelled out for the four kinds of rows -/
theorem Brew_cases (owners : Array Owner) (rewards : Array K) (nodes : Array (List (Tr K)))
    (x : Array K) (s : Nat) :
    (nodes.getD s [] = [] → Brew owners rewards nodes x s = 0) ∧
    (nodes.getD s [] ≠ [] → owners.getD s .prob = .prob →
      Brew owners rewards nodes x s =
        rewards.getD s 0 + ((nodes.getD s []).map (fun t => x.getD t.tgt 0 * t.p)).sum) ∧
    (nodes.getD s [] ≠ [] → owners.getD s .prob = .p1 →
      0 ≤ Brew owners rewards nodes x s - rewards.getD s 0 ∧
      (∀ t ∈ nodes.getD s [], x.getD t.tgt 0 ≤ Brew owners rewards nodes x s - rewards.getD s 0) ∧
      (Brew owners rewards nodes x s - rewards.getD s 0 = 0 ∨
        ∃ t ∈ nodes.getD s [], Brew owners rewards nodes x s - rewards.getD s 0 = x.getD t.tgt 0)) ∧
    (nodes.getD s [] ≠ [] → owners.getD s .prob = .p2 →
      (∀ t ∈ nodes.getD s [], Brew owners rewards nodes x s - rewards.getD s 0 ≤ x.getD t.tgt 0) ∧
      ∃ t ∈ nodes.getD s [], Brew owners rewards nodes x s - rewards.getD s 0 = x.getD t.tgt 0) := by
  refine ⟨Brew_nil, Brew_prob, ?_, ?_⟩
  · intro hne ho
    rw [Brew_p1 hne ho, add_sub_cancel_left]
    exact ⟨le_maxOver_init _ _ _, fun t ht => le_maxOver_mem _ _ _ t ht, maxOver_attained _ _ _⟩
  · intro hne ho
    obtain ⟨t0, rest, hrow⟩ := List.exists_cons_of_ne_nil hne
    rw [Brew_p2 hrow ho, add_sub_cancel_left, hrow]
    refine ⟨fun t ht => minOver_le_mem _ _ _ t ht, ?_⟩
    rcases minOver_attained x (t0 :: rest) (x.getD t0.tgt 0) with h | h
    · exact ⟨t0, List.mem_cons_self, h⟩
    · exact h

section
variable {rnd : K → Int} {thr : K} {fuel : Nat} {prune : Bool} {g : Game K} {out : SolveOut K}

omit [IsStrictOrderedRing K] in
/-- 1. on `.ok`, the reachability phase succeeded with the reported probabilities and strategy,
`out.nodes` is the result of conditioning the game on them, and the three reported vectors and
the iteration count are what the reward loop returns on the conditioned lists, started from
(rewards, rewards, reachability probabilities) with `diff = 1` -/
theorem rew_result (H : solve rnd thr fuel prune g = .ok out) :
    (∃ ro : ReachOut K, solveReach rnd thr fuel prune g = .ok ro ∧ out.probs = ro.probs ∧
      out.reachStrat = ro.strat ∧ out.itReach = ro.iters) ∧
    condition prune g out.reachStrat out.probs = .ok out.nodes ∧
    viRew rnd g.owners g.rewards out.nodes out.probs thr fuel 1
      { er := g.rewards, ermr := g.rewards, pmr := out.probs } 0 =
        .ok ({ er := out.rewards, ermr := out.rewMinReach, pmr := out.probMinRew }, out.itRew) := by
  obtain ⟨ro, h1, hc, hv, _, h3, h2, h4⟩ := solve_eq_ok.mp H
  rw [← h3, ← h2] at hc
  rw [← h2] at hv
  exact ⟨⟨ro, h1, h2, h3, h4⟩, hc, hv⟩

/-- 2. one entry per state in each of the three reported vectors -/
theorem rew_size (H : solve rnd thr fuel prune g = .ok out) :
    out.rewards.size = g.owners.size ∧ out.rewMinReach.size = g.owners.size ∧
      out.probMinRew.size = g.owners.size :=
  solve_sized H

/-- 3'. Bellman residual of a sweep result: if the reported vectors are the result of a sweep
with reported change `d`, every state's reported reward is within `d` of its Bellman value
(Gauss–Seidel: state `s` was set to `Brew` of an intermediate vector that differs from the final
one by at most `d` in every coordinate, and `Brew` is non-expansive in the sup norm) -/
theorem rew_residual (hwf : NodesWF g.owners out.nodes) (H : solve rnd thr fuel prune g = .ok out)
    (v : RewVecs K) (d : K)
    (hsw : sweepRew rnd g.owners g.rewards out.nodes out.probs v =
      .ok ({ er := out.rewards, ermr := out.rewMinReach, pmr := out.probMinRew }, d)) :
    ∀ s < g.owners.size,
      |Brew g.owners g.rewards out.nodes out.rewards s - out.rewards.getD s 0| ≤ d :=
  fun s hs => sweepRew_residual hwf (sized_of_last_sweep H hsw) hsw s hs

/-- 3. **Bellman consistency**: if the loop ran (`thr < 1`) and the conditioned rows of the
probabilistic states are empty or distributions, the reported reward vector is a fixed point of
the conditioned game's reward equations up to the threshold, at every state -/
theorem rew_bellman_consistency (hwf : NodesWF g.owners out.nodes) (hthr : thr < 1)
    (H : solve rnd thr fuel prune g = .ok out) :
    ∀ s < g.owners.size,
      |Brew g.owners g.rewards out.nodes out.rewards s - out.rewards.getD s 0| ≤ thr := by
  intro s hs
  obtain ⟨v, d, _, hsw, hd⟩ := solve_last_sweep H hthr
  exact le_trans (rew_residual hwf H v d hsw s hs) hd

/-- 3''. exactness when the last sweep changed nothing: the reported rewards are then an exact
fixed point of the conditioned game's reward equations (whatever the probabilities) -/
theorem rew_fixed_point_of_zero_diff (H : solve rnd thr fuel prune g = .ok out) (v : RewVecs K)
    (hsw : sweepRew rnd g.owners g.rewards out.nodes out.probs v =
      .ok ({ er := out.rewards, ermr := out.rewMinReach, pmr := out.probMinRew }, 0)) :
    ∀ s < g.owners.size,
      Brew g.owners g.rewards out.nodes out.rewards s = out.rewards.getD s 0 := fun s hs =>
  (Rew.stepRew_fst (solve_zero_fixed H hsw s hs)).symm

set_option linter.unusedSectionVars false in
/-- `check_game` lets only games with non-negative state rewards through -/
theorem game_rewards_nonneg (H : solve rnd thr fuel prune g = .ok out) :
    ∀ j, 0 ≤ g.rewards.getD j 0 := (solve_checked H).1

/-- 4. reported rewards are non-negative (the state rewards are non-negative by `check_game`, and
`NodesWF` gives `p ≥ 0` on the conditioned rows of the probabilistic states, which is all that is
used of it: `Rew.solve_er_nonneg`; holds whether or not the loop ran) -/
theorem rew_nonneg_of_nodesWF (hwf : NodesWF g.owners out.nodes)
    (H : solve rnd thr fuel prune g = .ok out) : ∀ j, 0 ≤ out.rewards.getD j 0 :=
  solve_er_nonneg H hwf.rowNonneg

/-- 5. "an emptied state is worth 0": if the loop ran, a state whose conditioned transition list
is empty reports 0 for all three quantities -/
theorem rew_emptied_zero (hthr : thr < 1) (H : solve rnd thr fuel prune g = .ok out) (s : Nat)
    (hrow : out.nodes.getD s [] = []) :
    out.rewards.getD s 0 = 0 ∧ out.rewMinReach.getD s 0 = 0 ∧ out.probMinRew.getD s 0 = 0 := by
  by_cases hs : s < g.owners.size
  · obtain ⟨v, d, hv, hsw, _⟩ := solve_last_sweep H hthr
    exact ⟨sweepRew_emptied .er hv hsw s hs hrow, sweepRew_emptied .ermr hv hsw s hs hrow,
      sweepRew_emptied .pmr hv hsw s hs hrow⟩
  · obtain ⟨h1, h2, h3⟩ := rew_size H
    have hs' : g.owners.size ≤ s := Nat.le_of_not_lt hs
    exact ⟨getD_of_size_le _ _ _ (h1 ▸ hs'), getD_of_size_le _ _ _ (h2 ▸ hs'),
      getD_of_size_le _ _ _ (h3 ▸ hs')⟩

/-- if every probabilistic row of the game is a positive distribution then `NodesWF` holds for
the conditioned lists of any `.ok` run (`Rew.nodesWF_of_condition`; pruning on: a row with a live
transition is renormalised, `condProb_sum_one` / `condProb_pos_of_pos` of `CR/Lemmas/Prune.lean`,
one without is emptied; pruning off: the rows are unchanged) -/
theorem nodesWF_of_game
    (hrows : ∀ s < g.owners.size, g.owners.getD s .prob = .prob →
      (∀ t ∈ g.tl.getD s [], 0 < t.p) ∧ ((g.tl.getD s []).map (·.p)).sum = 1)
    (H : solve rnd thr fuel prune g = .ok out) : NodesWF g.owners out.nodes :=
  nodesWF_of_condition hrows (rew_result H).2.1

/-- 3, for games: Bellman consistency with the hypothesis on the INPUT game -/
theorem rew_bellman_consistency_of_game
    (hrows : ∀ s < g.owners.size, g.owners.getD s .prob = .prob →
      (∀ t ∈ g.tl.getD s [], 0 < t.p) ∧ ((g.tl.getD s []).map (·.p)).sum = 1)
    (hthr : thr < 1) (H : solve rnd thr fuel prune g = .ok out) :
    ∀ s < g.owners.size,
      |Brew g.owners g.rewards out.nodes out.rewards s - out.rewards.getD s 0| ≤ thr :=
  rew_bellman_consistency (nodesWF_of_game hrows H) hthr H

end

section NoPrune
variable {rnd : K → Int} {thr : K} {fuel : Nat} {g : Game K} {out : SolveOut K}

omit [IsStrictOrderedRing K] in
/-- 6. with pruning off the conditioned game is the input game with Player 1 restricted to its
reachability strategies and nothing else changed -/
theorem noprune_nodes (H : solve rnd thr fuel false g = .ok out) :
    out.nodes = pruneReachability g.owners out.reachStrat g.tl ∧
    ∀ s, out.nodes.getD s [] =
      match g.owners.getD s .prob with
      | .p1 => (g.tl.getD s []).filter
          (fun t => ((out.reachStrat.getD s none).getD []).contains t.act)
      | _ => g.tl.getD s [] := by
  have h := (rew_result H).2.1
  rw [condition_false_eq] at h
  injection h with h
  exact ⟨h.symm, fun s => by rw [← h]; exact pruneReachability_getD _ _ _ s⟩

/-- 6'. with pruning off, statements 1–5 hold with `out.nodes` replaced by
`pruneReachability g.owners out.reachStrat g.tl`; in particular Bellman consistency, where
`NodesWF` now follows from `p ≥ 0`, `Σ p = 1` on the probabilistic rows of the input game -/
theorem rew_bellman_consistency_noprune
    (hrows : ∀ s < g.owners.size, g.owners.getD s .prob = .prob →
      (∀ t ∈ g.tl.getD s [], 0 ≤ t.p) ∧ ((g.tl.getD s []).map (·.p)).sum = 1)
    (hthr : thr < 1) (H : solve rnd thr fuel false g = .ok out) :
    ∀ s < g.owners.size,
      |Brew g.owners g.rewards (pruneReachability g.owners out.reachStrat g.tl) out.rewards s
        - out.rewards.getD s 0| ≤ thr := by
  obtain ⟨hn, hrow⟩ := noprune_nodes H
  rw [← hn]
  refine rew_bellman_consistency (fun s hs ho => Or.inr ?_) hthr H
  rw [hrow s, ho]
  exact hrows s hs ho

end NoPrune

section NonVacuity
open CR.Examples CR.Rew.Examples

example : NodesWF g7.owners g7nodes := g7_wf

example : (thr : Rat) < 1 := by decide +kernel

/-- `Brew` evaluated on the concrete conditioned game: probabilistic state 1, Player-1 state 3,
emptied state 2 -/
example : Brew g7.owners g7.rewards g7nodes #[2, 2, 0, 2, 0, 0, 0] 1 = 2 ∧
    Brew g7.owners g7.rewards g7nodes #[2, 2, 0, 2, 0, 0, 0] 3 = 2 ∧
    Brew g7.owners g7.rewards g7nodes #[2, 2, 0, 2, 0, 0, 0] 2 = 0 := by decide +kernel

/-- all hypotheses of `rew_bellman_consistency` hold together on a concrete run -/
example : ∃ out, solve (roundRat 6) thr 1000 true g7 = .ok out ∧
    ∀ s < g7.owners.size,
      |Brew g7.owners g7.rewards out.nodes out.rewards s - out.rewards.getD s 0| ≤ thr :=
  ⟨_, g7_solve_true, rew_bellman_consistency g7_wf (by decide +kernel) g7_solve_true⟩

/-- ... and those of `rew_emptied_zero` (state 2 is emptied) -/
example : ∃ out, solve (roundRat 6) thr 1000 true g7 = .ok out ∧
    out.nodes.getD 2 [] = [] ∧ out.rewards.getD 2 0 = 0 :=
  ⟨_, g7_solve_true, rfl, (rew_emptied_zero (by decide +kernel) g7_solve_true 2 rfl).1⟩

/-- a run with a Player-2 state (state 1 of the 6-state game), pruning off: the hypotheses of
`rew_bellman_consistency_noprune` hold -/
example : ∃ out, solve (roundRat 6) thr 1000 false g6 = .ok out ∧
    (out.rewards, out.itRew) = (#[1, 0, 0, 1, 0, 0], 2) ∧
    ∀ s < g6.owners.size,
      |Brew g6.owners g6.rewards (pruneReachability g6.owners out.reachStrat g6.tl) out.rewards s
        - out.rewards.getD s 0| ≤ thr :=
  ⟨_, g6_solve_false, rfl, rew_bellman_consistency_noprune (by decide +kernel) (by decide +kernel)
    g6_solve_false⟩

end NonVacuity

end CR.C02
