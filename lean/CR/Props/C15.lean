/-
C15: random boards are reproducible, in range and honour their parameters; parameter sets
outside the documented ranges are refused with `ValueError` before anything is written
(model: `CR/Model/Gen.lean`).

Reproducibility: the board is modelled as a *function* `genBoard L W pLoose m fd d` of the
parameters and of the draws `d : Draws` returned by the calls to the `random` API.  A generator
seeded with `random.seed(seed)` is deterministic, so the draws are a function of the seed and the
call sequence, and the call sequence (two `random()` per tile, one `choices` and – with
`force_down` – one `randrange` per row) depends on the parameters only.  Equal parameters and
equal seed therefore give equal boards by construction (`congrArg`); nothing is to be proved.

The theorems below hold for *all* draws (the ones with an "API contract" hypothesis: for all
draws the `random` API may return according to its documentation).
-/
import CR.Model.Gen

namespace CR.C15

open CR CR.Gen

private theorem list_getD_map_range {β : Type} (f : Nat → β) {i n : Nat} (hi : i < n) (d : β) :
    ((List.range n).map f).getD i d = f i := by
  rw [List.getD_eq_getElem?_getD, List.getElem?_map, List.getElem?_range hi]; rfl

private theorem moves_getD (L W m : Nat) (p : Float) (fd : Bool) (d : Draws) {i : Nat}
    (hi : i < L) :
    (genBoard L W p m fd d).moves.getD i [] =
      if fd then (d.rows.getD i []).set (d.downs.getD i 0) 3 else d.rows.getD i [] :=
  list_getD_map_range _ hi []

private theorem ls_eq (L W m : Nat) (p : Float) (fd : Bool) (d : Draws) {i j : Nat}
    (hi : i < L) (hj : j < W) :
    (genBoard L W p m fd d).ls i j = looseOf p (d.us.getD (2 * (i * W + j) + 1) 0) := by
  rw [Board.ls, genBoard, list_getD_map_range _ hi, list_getD_map_range _ hj]

private theorem rw_eq (L W m : Nat) (p : Float) (fd : Bool) (d : Draws) {i j : Nat}
    (hi : i < L) (hj : j < W) :
    (genBoard L W p m fd d).rw i j = rewardOf m (d.us.getD (2 * (i * W + j)) 0) := by
  rw [Board.rw, genBoard, list_getD_map_range _ hi, list_getD_map_range _ hj]

/-- 1. the three tables have `length` rows of `width` entries (for the arrows: when
`random.choices(..., k=width)` returns `width` entries, its contract) -/
theorem board_dims (L W m : Nat) (pLoose : Float) (fd : Bool) (d : Draws) :
    let b := genBoard L W pLoose m fd d
    b.rewards.length = L ∧ (∀ r ∈ b.rewards, r.length = W) ∧
    b.loose.length = L ∧ (∀ r ∈ b.loose, r.length = W) ∧
    b.moves.length = L ∧
    ((∀ i < L, (d.rows.getD i []).length = W) → ∀ r ∈ b.moves, r.length = W) := by
  intro b
  -- rewards and loose flags are built by the same two nested comprehensions
  have rowsW : ∀ f : Nat → Nat → Nat,
      ∀ r ∈ (List.range L).map (fun i => (List.range W).map (fun j => f i j)), r.length = W := by
    intro f r hr
    obtain ⟨i, _, rfl⟩ := List.mem_map.1 hr
    rw [List.length_map, List.length_range]
  have len : ∀ {β : Type} (f : Nat → β), ((List.range L).map f).length = L := fun f => by
    rw [List.length_map, List.length_range]
  refine ⟨len _, rowsW _, len _, rowsW _, len _, ?_⟩
  · intro hrows r hr
    simp only [b, genBoard, List.mem_map, List.mem_range] at hr
    obtain ⟨i, hi, rfl⟩ := hr
    have := hrows i hi
    cases fd
    · exact this
    · simp only [if_true, List.length_set]; exact this

/-- 2. a tile is loose exactly when its draw is below the requested probability, and every flag
is 0 or 1 (`<` is the IEEE comparison of doubles) -/
theorem flag_iff (L W m : Nat) (pLoose : Float) (fd : Bool) (d : Draws) (i j : Nat)
    (hi : i < L) (hj : j < W) :
    let b := genBoard L W pLoose m fd d
    let u := d.us.getD (2 * (i * W + j) + 1) 0
    (b.ls i j = 1 ↔ u < pLoose) ∧ (b.ls i j = 0 ↔ ¬ u < pLoose) := by
  intro b u
  have e : b.ls i j = if u < pLoose then 1 else 0 := ls_eq L W m pLoose fd d hi hj
  rw [e]
  by_cases h : u < pLoose
  · rw [if_pos h]
    exact ⟨⟨fun _ => h, fun _ => rfl⟩, ⟨fun h' => absurd h' (by decide), fun h' => absurd h h'⟩⟩
  · rw [if_neg h]
    exact ⟨⟨fun h' => absurd h' (by decide), fun h' => absurd h' h⟩, ⟨fun _ => h, fun _ => rfl⟩⟩

theorem flags_binary (L W m : Nat) (pLoose : Float) (fd : Bool) (d : Draws) (i j : Nat)
    (hi : i < L) (hj : j < W) :
    let b := genBoard L W pLoose m fd d
    b.ls i j = 0 ∨ b.ls i j = 1 := by
  intro b
  simp only [b, ls_eq L W m pLoose fd d hi hj, looseOf]
  split <;> simp

/-- 3. every reward is within `0..max_reward` (naturals: `0 ≤` is in the type) -/
theorem rewards_range (L W m : Nat) (pLoose : Float) (fd : Bool) (d : Draws) (i j : Nat)
    (hi : i < L) (hj : j < W) :
    (genBoard L W pLoose m fd d).rw i j ≤ m := by
  rw [rw_eq L W m pLoose fd d hi hj]
  exact Nat.min_le_left _ _

/-- 4. arrows: only allowed values; without `force_down` no down-only tile, with it at least
one per row.  API contract: `choices(population, k=width)` returns `width` members of the
population (`0..2`, with `force_down` `0..3`), `randrange(0, width)` a value below `width`. -/
theorem arrows_allowed (L W m : Nat) (pLoose : Float) (fd : Bool) (d : Draws)
    (hrows : ∀ i < L, (d.rows.getD i []).length = W ∧
      ∀ a ∈ d.rows.getD i [], a ≤ (if fd then 3 else 2))
    (hdowns : fd = true → ∀ i < L, d.downs.getD i 0 < W) :
    let b := genBoard L W pLoose m fd d
    (∀ i < L, ∀ j < W, b.mv i j ≤ 3) ∧
    (fd = false → ∀ i < L, ∀ j < W, b.mv i j ≤ 2) ∧
    (fd = true → ∀ i < L, ∃ j < W, b.mv i j = 3) := by
  intro b
  -- row `i` of the arrows is the drawn row, with one entry overwritten by `3` under `force_down`
  have row : ∀ i < L, (b.moves.getD i []).length = W ∧
      ∀ a ∈ b.moves.getD i [], a ≤ (if fd then 3 else 2) := by
    intro i hi
    obtain ⟨hlen, hval⟩ := hrows i hi
    rw [moves_getD L W m pLoose fd d hi]
    cases fd
    · exact ⟨hlen, hval⟩
    · exact ⟨(List.length_set ..).trans hlen, fun a ha =>
        (List.mem_or_eq_of_mem_set ha).elim (hval a) fun e => e ▸ Nat.le_refl 3⟩
  have key : ∀ i < L, ∀ j < W, b.mv i j ≤ (if fd then 3 else 2) := by
    intro i hi j hj
    obtain ⟨hlen, hval⟩ := row i hi
    rw [Board.mv, List.getD_eq_getElem?_getD, List.getElem?_eq_getElem (hlen ▸ hj)]
    exact hval _ (List.getElem_mem _)
  refine ⟨fun i hi j hj => Nat.le_trans (key i hi j hj) (by cases fd <;> decide),
    fun hfd i hi j hj => by simpa [hfd] using key i hi j hj, ?_⟩
  rintro rfl i hi
  have hk := hdowns rfl i hi
  refine ⟨d.downs.getD i 0, hk, ?_⟩
  rw [Board.mv, moves_getD L W m pLoose true d hi, if_pos rfl, List.getD_eq_getElem?_getD,
    List.getElem?_set_self ((hrows i hi).1 ▸ hk)]
  rfl

/-- the probability check as a proposition (a NaN passes, as in Python) -/
theorem prob_check_iff (p : Float) : (p ≤ 0 || p ≥ 1) = false ↔ (¬ p ≤ 0 ∧ ¬ p ≥ 1) := by
  simp

/-- the eight refusal conditions of `check_input`, in the order in which they are tested -/
def refusals (seed w l : Int) (pr plt plo pti : Float) (m : Int) : List Bool :=
  [seed < 0, w ≤ 0, l ≤ 0, pr ≤ 0 || pr ≥ 1, plt ≤ 0 || plt ≥ 1, plo ≤ 0 || plo ≥ 1,
   pti ≤ 0 || pti ≥ 1, m ≤ 0]

/-- With this, acceptance and refusal are facts of `List.findIdx?` about opaque list entries.
(Splitting the `if`s instead puts the `Float` comparisons among the hypotheses, where `simp` and
the unifier unfold the software doubles: two orders of magnitude slower to check.) -/
theorem checkInput_eq_findIdx? (seed w l : Int) (pr plt plo pti : Float) (m : Int) :
    checkInput seed w l pr plt plo pti m = (refusals seed w l pr plt plo pti m).findIdx? id := by
  simp only [refusals, List.findIdx?, List.findIdx?.go, id, decide_eq_true_eq]
  rfl

/-- 5. a parameter set is accepted iff every documented range holds -/
theorem check_input_iff (seed w l : Int) (pr plt plo pti : Float) (m : Int) :
    checkInput seed w l pr plt plo pti m = none ↔
      (0 ≤ seed ∧ 0 < w ∧ 0 < l ∧ (pr ≤ 0 || pr ≥ 1) = false ∧ (plt ≤ 0 || plt ≥ 1) = false ∧
        (plo ≤ 0 || plo ≥ 1) = false ∧ (pti ≤ 0 || pti ≥ 1) = false ∧ 0 < m) := by
  rw [checkInput_eq_findIdx?, List.findIdx?_eq_none_iff]
  simp only [refusals, List.forall_mem_cons, id, decide_eq_false_iff_not, Int.not_lt, Int.not_le,
    List.not_mem_nil, false_imp_iff, implies_true, and_true]

/-- 5b for any predicate `Q` that holds of the verdict: `Q := (checkInput … = ·)` gives 5b for the
model, `Q := (check_input … = the verdict rendered as the code's result)` the same for the
translated code. -/
theorem check_input_first_of (Q : Option Nat → Prop) (seed w l : Int) (pr plt plo pti : Float)
    (m : Int) (hQ : Q (checkInput seed w l pr plt plo pti m)) :
    (seed < 0 → Q (some 0)) ∧ (0 ≤ seed →
    (w ≤ 0 → Q (some 1)) ∧ (0 < w →
    (l ≤ 0 → Q (some 2)) ∧ (0 < l →
    ((pr ≤ 0 || pr ≥ 1) = true → Q (some 3)) ∧ ((pr ≤ 0 || pr ≥ 1) = false →
    ((plt ≤ 0 || plt ≥ 1) = true → Q (some 4)) ∧ ((plt ≤ 0 || plt ≥ 1) = false →
    ((plo ≤ 0 || plo ≥ 1) = true → Q (some 5)) ∧ ((plo ≤ 0 || plo ≥ 1) = false →
    ((pti ≤ 0 || pti ≥ 1) = true → Q (some 6)) ∧ ((pti ≤ 0 || pti ≥ 1) = false →
    (m ≤ 0 → Q (some 7)) ∧ (0 < m → Q none)))))))) := by
  -- the conclusion is the `if` cascade of `checkInput` itself, so it is followed test by test
  -- (only 5 goes through `refusals`)
  simp only [checkInput] at hQ
  refine ⟨fun h => by rwa [if_pos h] at hQ, fun h0 => ?_⟩
  rw [if_neg (Int.not_lt.2 h0)] at hQ
  refine ⟨fun h => by rwa [if_pos h] at hQ, fun h1 => ?_⟩
  rw [if_neg (Int.not_le.2 h1)] at hQ
  refine ⟨fun h => by rwa [if_pos h] at hQ, fun h2 => ?_⟩
  rw [if_neg (Int.not_le.2 h2)] at hQ
  refine ⟨fun h => by rwa [if_pos h] at hQ, fun h3 => ?_⟩
  rw [if_neg (ne_true_of_eq_false h3)] at hQ
  refine ⟨fun h => by rwa [if_pos h] at hQ, fun h4 => ?_⟩
  rw [if_neg (ne_true_of_eq_false h4)] at hQ
  refine ⟨fun h => by rwa [if_pos h] at hQ, fun h5 => ?_⟩
  rw [if_neg (ne_true_of_eq_false h5)] at hQ
  refine ⟨fun h => by rwa [if_pos h] at hQ, fun h6 => ?_⟩
  rw [if_neg (ne_true_of_eq_false h6)] at hQ
  exact ⟨fun h => by rwa [if_pos h] at hQ, fun h7 => by rwa [if_neg (Int.not_le.2 h7)] at hQ⟩

/-- 5b. when several checks fail, the first one in the documented order
(seed, width, length, robot, light, loose-tile, tile-break probability, max reward) is reported -/
theorem check_input_first (seed w l : Int) (pr plt plo pti : Float) (m : Int) :
    let r := checkInput seed w l pr plt plo pti m
    (seed < 0 → r = some 0) ∧ (0 ≤ seed →
    (w ≤ 0 → r = some 1) ∧ (0 < w →
    (l ≤ 0 → r = some 2) ∧ (0 < l →
    ((pr ≤ 0 || pr ≥ 1) = true → r = some 3) ∧ ((pr ≤ 0 || pr ≥ 1) = false →
    ((plt ≤ 0 || plt ≥ 1) = true → r = some 4) ∧ ((plt ≤ 0 || plt ≥ 1) = false →
    ((plo ≤ 0 || plo ≥ 1) = true → r = some 5) ∧ ((plo ≤ 0 || plo ≥ 1) = false →
    ((pti ≤ 0 || pti ≥ 1) = true → r = some 6) ∧ ((pti ≤ 0 || pti ≥ 1) = false →
    (m ≤ 0 → r = some 7) ∧ (0 < m → r = none)))))))) :=
  check_input_first_of (checkInput seed w l pr plt plo pti m = ·) seed w l pr plt plo pti m rfl

/-- 6a. a refused parameter set raises and does nothing else: no seeding, no draw, no file -/
theorem refused_before_write (seed w l : Int) (pr plt plo pti : Float) (m : Int) (fd : Bool)
    (k : Nat) (h : checkInput seed w l pr plt plo pti m = some k) :
    mainEffects seed w l pr plt plo pti m fd = [.raiseValueError k] := by
  simp [mainEffects, h]

/-- 6b. an accepted one seeds the generator first, then draws, then opens the file whose name
states the parameters -/
theorem accepted_effects (seed w l : Int) (pr plt plo pti : Float) (m : Int) (fd : Bool)
    (h : checkInput seed w l pr plt plo pti m = none) :
    mainEffects seed w l pr plt plo pti m fd =
      [.seedRng seed, .drawBoard,
       .openWrite (fileName seed.toNat w.toNat l.toNat m.toNat pr plt pti plo fd)] := by
  simp [mainEffects, h]

/-- draws for a 2×3 board -/
example :
    let d : Draws := { us := [0.9, 0.1, 0.9, 0.5, 0.9, 0.29, 0.9, 0.3, 0.9, 0.31, 0.9, 0.0],
                       rows := [[0, 1, 2], [2, 2, 0]], downs := [1, 0] }
    (genBoard 2 3 0.3 6 false d).loose = [[1, 0, 1], [0, 0, 1]] ∧
    (genBoard 2 3 0.3 6 false d).moves = [[0, 1, 2], [2, 2, 0]] ∧
    (genBoard 2 3 0.3 6 true d).moves = [[0, 3, 2], [3, 2, 0]] ∧
    (∀ i < 2, (d.rows.getD i []).length = 3 ∧ ∀ a ∈ d.rows.getD i [], a ≤ 2) ∧
    (∀ i < 2, d.downs.getD i 0 < 3) := by
  decide +kernel

example : checkInput 47 5 5 0.1 0.1 0.3 0.1 6 = none := by decide +kernel
example : checkInput (-1) 0 5 0.1 0.1 0.3 0.1 6 = some 0 := by decide +kernel
example : checkInput 47 5 5 0.1 1.0 0.0 0.1 0 = some 4 := by decide +kernel
example : checkInput 47 5 5 0.1 0.1 0.3 0.1 0 = some 7 := by decide +kernel
/-- a NaN probability is not refused (Python: every comparison with NaN is false) -/
example : checkInput 47 5 5 (0 / 0) 0.1 0.3 0.1 6 = none := by decide +kernel

example : mainEffects 47 5 5 0.1 0.1 0.3 0.1 6 false =
    [.seedRng 47, .drawBoard,
     .openWrite "inputs/robot_47_w5_l5_r6_rb10_lb10_tb10_lt30.py"] := by decide +kernel
example : mainEffects 47 5 5 0.1 0.1 1.5 0.1 6 false = [.raiseValueError 5] := by
  decide +kernel

end CR.C15
