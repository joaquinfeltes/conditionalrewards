/-
C16: "When results are saved, the report file is named after the input file, contains one block
per game and pruning mode in run order, and every line of a block reads back to exactly the value
the batch run produced for that entry."
(model: `CR/Model/Report.lean`; helper lemmas: `CR/Lemmas/Report.lean`).
-/
import CR.Lemmas.Report

namespace CR.C16

open CR.Report CR.ReportLemmas

/-- 1. all 14 labels are padded to 26 characters -/
theorem labels_width : (∀ l ∈ labels, l.length = 26) ∧ labels.length = 14 :=
  ⟨fun l hl => (labels_chars l hl).1, labels_length⟩

/-- 2. a block is the separator followed by the 14 lines `label ++ field text`, in label order -/
theorem block_shape (name : String) (e : Entry) :
    (blockLines name e).length = 15 ∧
    (blockLines name e).head? = some separator ∧
    (fieldTexts name e).length = 14 ∧
    ∀ k, k < 14 →
      (blockLines name e)[k + 1]? = some (labels[k]! ++ (fieldTexts name e)[k]!) := by
  refine ⟨blockLines_length name e, rfl, fieldTexts_length name e, ?_⟩
  intro k hk
  have hl : k < labels.length := labels_length ▸ hk
  have hf : k < (fieldTexts name e).length := fieldTexts_length name e ▸ hk
  rw [blockLines_eq, List.getElem?_cons_succ, List.getElem?_zipWith, getElem!_pos labels k hl,
    getElem!_pos _ k hf, List.getElem?_eq_getElem hl, List.getElem?_eq_getElem hf]

/-- 3. the line reader returns the text after the label, verbatim -/
theorem line_readback (l : String) (hl : l ∈ labels) (t : String) : fieldOfLine (l ++ t) = t :=
  fieldOfLine_append l t (labels_chars l hl).1

/-- 4. one block per entry, in run order, every field text read back verbatim -/
theorem report_blocks (rs : List (String × Entry)) :
    readBlocks (rs.flatMap (fun ne => blockLines ne.1 ne.2)) =
      rs.map (fun ne => fieldTexts ne.1 ne.2) := by
  induction rs with
  | nil => simp [readBlocks_nil]
  | cons ne rs ih => simp [List.flatMap_cons, readBlocks_block, ih]

/-- 5a. the report text is the concatenation of the block lines, each terminated by a newline -/
theorem report_text (rs : List (String × Entry)) :
    renderReport rs =
      String.join ((rs.flatMap (fun ne => blockLines ne.1 ne.2)).map (· ++ "\n")) := rfl

/-- 5b. if no field text contains a newline, splitting the report text at newlines (Lean's
`String.splitOn "\n"`) gives back exactly the block lines, plus a final empty string -/
theorem report_lines (rs : List (String × Entry))
    (h : ∀ ne ∈ rs, ∀ t ∈ fieldTexts ne.1 ne.2, '\n' ∉ t.toList) :
    (renderReport rs).splitOn "\n" = rs.flatMap (fun ne => blockLines ne.1 ne.2) ++ [""] := by
  rw [report_text]
  apply splitOn_join_lines
  intro l hl
  obtain ⟨ne, hne, hl⟩ := List.mem_flatMap.1 hl
  exact blockLines_no_newline ne.1 ne.2 (h ne hne) l hl

/-- 5c. hence reading the blocks of the split report text gives the field texts of the run -/
theorem report_roundtrip (rs : List (String × Entry))
    (h : ∀ ne ∈ rs, ∀ t ∈ fieldTexts ne.1 ne.2, '\n' ∉ t.toList) :
    readBlocks (((renderReport rs).splitOn "\n").dropLast) =
      rs.map (fun ne => fieldTexts ne.1 ne.2) := by
  rw [report_lines rs h, List.dropLast_concat, report_blocks]

/-- 6. on well-formed values (`WFVal`, defined in `CR/Lemmas/Report.lean`: strings are printable
ASCII without `'`, `\`, `,`, `[`, `]`, newline; float texts are non-empty, contain none of
`, [ ] '` nor a space, and are not the text of `None`/`True`/`False`/an int; lists of well-formed
values, arbitrarily nested) the printed text determines the value -/
theorem renderVal_injective (a b : RVal) (wa : WFVal a) (wb : WFVal b)
    (h : renderVal a = renderVal b) : a = b := by
  have := renderVal_prefix a wa b wb [] [] Chars.tail_nil Chars.tail_nil
    (by simp only [List.append_nil]; exact congrArg String.toList h)
  exact this.1

/-- 6'. hence two entries of well-formed values whose blocks have the same field texts are equal
field by field (name, message and time are printed verbatim) -/
theorem fieldTexts_injective (n n' : String) (e e' : Entry)
    (w : WFVal e.nStates ∧ WFVal e.nTransitions ∧ WFVal e.itReach ∧ WFVal e.itRew ∧
      WFVal e.reachStrat ∧ WFVal e.finalStrat ∧ WFVal e.probabilities ∧ WFVal e.probMinRew ∧
      WFVal e.rewards ∧ WFVal e.rewMinReach)
    (w' : WFVal e'.nStates ∧ WFVal e'.nTransitions ∧ WFVal e'.itReach ∧ WFVal e'.itRew ∧
      WFVal e'.reachStrat ∧ WFVal e'.finalStrat ∧ WFVal e'.probabilities ∧ WFVal e'.probMinRew ∧
      WFVal e'.rewards ∧ WFVal e'.rewMinReach)
    (h : fieldTexts n e = fieldTexts n' e') : n = n' ∧ e = e' := by
  obtain ⟨a1, a2, a3, a4, a5, a6, a7, a8, a9, a10⟩ := w
  obtain ⟨b1, b2, b3, b4, b5, b6, b7, b8, b9, b10⟩ := w'
  simp only [fieldTexts, List.cons.injEq, and_true] at h
  obtain ⟨hn, hm, h1, h2, h3, h4, h5, h6, hq, h7, h8, h9, h10, ht⟩ := h
  refine ⟨hn, ?_⟩
  cases e; cases e'
  simp only [Entry.mk.injEq]
  simp only at *
  refine ⟨hm, renderVal_injective _ _ a1 b1 h1, renderVal_injective _ _ a2 b2 h2,
    renderVal_injective _ _ a3 b3 h3, renderVal_injective _ _ a4 b4 h4,
    renderVal_injective _ _ a5 b5 h5, renderVal_injective _ _ a6 b6 h6, boolText_inj hq,
    renderVal_injective _ _ a7 b7 h7, renderVal_injective _ _ a8 b8 h8,
    renderVal_injective _ _ a9 b9 h9, renderVal_injective _ _ a10 b10 h10, ht⟩

/-- 7. the report is named after the input file: directory dropped, extension replaced -/
theorem outname_stem (d stem : String) (h1 : '/' ∉ stem.toList) (h2 : '.' ∉ stem.toList) :
    outName (d ++ "/" ++ stem ++ ".py") = "outputs/" ++ stem ++ ".txt" := by
  refine outName_of_last _ stem h2 ?_
  have e : (d ++ "/" ++ stem ++ ".py").toList =
      d.toList ++ '/' :: (stem.toList ++ ['.', 'p', 'y']) := by
    simp only [String.toList_append, List.append_assoc]; rfl
  rw [e, List.splitOn_append_cons_self, List.splitOn_eq_singleton (not_slash_py h1)]
  simp

/-- 7'. the same without a directory part -/
theorem outname_stem_nodir (stem : String) (h1 : '/' ∉ stem.toList) (h2 : '.' ∉ stem.toList) :
    outName (stem ++ ".py") = "outputs/" ++ stem ++ ".txt" := by
  refine outName_of_last _ stem h2 ?_
  have e : (stem ++ ".py").toList = stem.toList ++ ['.', 'p', 'y'] := by
    rw [String.toList_append]; rfl
  rw [e, List.splitOn_eq_singleton (not_slash_py h1)]; rfl

/-- the excluded case: a stem containing a dot is cut at its first dot -/
example : outName "inputs/a.b.py" = "outputs/a.txt" := by
  rw [outName_eq]; decide +kernel

example : outName "inputs/sub.dir/game_01.py" = "outputs/game_01.txt" :=
  outname_stem "inputs/sub.dir" "game_01" (by decide) (by decide)

example : outName "game_01.py" = "outputs/game_01.txt" :=
  outname_stem_nodir "game_01" (by decide) (by decide)

/-- a solved entry with nested strategy lists and float atoms -/
def exSolved : Entry where
  msg := "Solved"
  nStates := .int 3
  nTransitions := .int 5
  itReach := .int 12
  itRew := .int 7
  reachStrat := .list [.none, .list [.str "a", .str "b"], .list []]
  finalStrat := .list [.none, .list [.str "a", .str "b"], .list []]
  areEqual := true
  probabilities := .list [.float "0.75", .float "1.0", .float "0.0"]
  probMinRew := .list [.float "0.75", .float "1.0", .float "0.0"]
  rewards := .list [.float "2.5", .float "0.0", .float "inf"]
  rewMinReach := .list [.float "2.5", .float "0.0", .float "inf"]
  totalTime := "<t>"

/-- a failed entry -/
def exFailed : Entry where
  msg := "Error while solving the game: Missing transitions"
  nStates := .none
  nTransitions := .none
  itReach := .none
  itRew := .none
  reachStrat := .none
  finalStrat := .none
  areEqual := true
  probabilities := .none
  probMinRew := .none
  rewards := .none
  rewMinReach := .none
  totalTime := "<t>"

def exRun : List (String × Entry) := [("g1 (pruning)", exSolved), ("g2 (no pruning)", exFailed)]

example : renderVal exSolved.reachStrat = "[None, ['a', 'b'], []]" := by decide +kernel

example : fieldTexts "g1 (pruning)" exSolved =
    ["g1 (pruning)", "Solved", "3", "5", "12", "7", "[None, ['a', 'b'], []]",
     "[None, ['a', 'b'], []]", "True", "[0.75, 1.0, 0.0]", "[0.75, 1.0, 0.0]",
     "[2.5, 0.0, inf]", "[2.5, 0.0, inf]", "<t>"] := by
  -- `+kernel`: the elaborator's evaluation of string operations is several times dearer
  decide +kernel

example : (blockLines "g2 (no pruning)" exFailed)[2]? =
    some "Message                 : Error while solving the game: Missing transitions" := by
  decide +kernel

example : readBlocks (exRun.flatMap (fun ne => blockLines ne.1 ne.2)) =
    [["g1 (pruning)", "Solved", "3", "5", "12", "7", "[None, ['a', 'b'], []]",
      "[None, ['a', 'b'], []]", "True", "[0.75, 1.0, 0.0]", "[0.75, 1.0, 0.0]",
      "[2.5, 0.0, inf]", "[2.5, 0.0, inf]", "<t>"],
     ["g2 (no pruning)", "Error while solving the game: Missing transitions", "None", "None",
      "None", "None", "None", "None", "True", "None", "None", "None", "None", "<t>"]] := by
  rw [report_blocks]; decide +kernel

/-- the hypothesis of `report_lines` holds for the example run -/
example : (renderReport exRun).splitOn "\n" =
    exRun.flatMap (fun ne => blockLines ne.1 ne.2) ++ [""] :=
  report_lines exRun (by decide +kernel)

/-- the example values are well-formed (so `renderVal_injective` applies to them) -/
example : WFVal exSolved.reachStrat :=
  ⟨trivial, ⟨(by decide +kernel : StrOK "a"), (by decide +kernel : StrOK "b"), trivial⟩, trivial, trivial⟩

example : WFVal exSolved.rewards :=
  ⟨floatOK_of_floatMark (by decide +kernel), floatOK_of_floatMark (by decide +kernel),
    floatOK_of_floatMark (by decide +kernel), trivial⟩

example : WFVal (.float "1e-05") ∧ WFVal (.float "-inf") ∧ WFVal (.float "nan") :=
  ⟨floatOK_of_floatMark (by decide +kernel), floatOK_of_floatMark (by decide +kernel),
    floatOK_of_floatMark (by decide +kernel)⟩

/-- outside the domain the text is ambiguous: a float atom spelled like an int, or a string
containing the list separator -/
example : renderVal (.float "3") = renderVal (.int 3) := by decide +kernel
example : renderVal (.list [.str "a', 'b"]) = renderVal (.list [.str "a", .str "b"]) := by
  decide +kernel

end CR.C16
