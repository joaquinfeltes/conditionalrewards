/-
C01: "the value" is not a vacuous notion.  Over the reals every well-formed game HAS a value in
the sense of `IsValue` (the least pre-fixed point of the Bellman operator `Bell`), it is unique,
and its entries are probabilities; hence `reach_le_value` speaks about an existing object.

Construction (Knaster–Tarski on the finitely many coordinates): `v s` is the infimum of `y s`
over all pre-fixed points `y`.  That family is non-empty (the all-ones vector) and closed under
pointwise infimum because `Bell` is monotone.  Helper lemmas: `CR/Lemmas/Value.lean`.
-/
import CR.Lemmas.Value

namespace CR.C01

open CR CR.VI

section Field
variable {K : Type} [Field K] [LinearOrder K] [IsStrictOrderedRing K]

omit [IsStrictOrderedRing K] in
theorem value_unique (g : Game K) (v w : Array K) (hv : IsValue g v) (hw : IsValue g w) :
    v = w :=
  array_ext_getD 0 (hv.prefixed.size.trans hw.prefixed.size.symm) fun i hi =>
    isValue_unique hv hw i (hv.prefixed.size ▸ hi)

theorem value_range (g : Game K) (hwf : WF g) (v : Array K) (hv : IsValue g v) :
    ∀ s, 0 ≤ v.getD s 0 ∧ v.getD s 0 ≤ 1 := by
  refine getD_forall (fun a => 0 ≤ a ∧ a ≤ 1) ⟨le_rfl, zero_le_one⟩ fun s hs => ?_
  rw [hv.prefixed.size] at hs
  exact ⟨hv.prefixed.nonneg s hs, le_trans (hv.least (ones_prefixed hwf) s hs) (ones_le_one g s)⟩

/-- a fixed point, not only a pre-fixed point: otherwise the entry could be lowered to its Bellman
value (`PreFixed.lower`) -/
theorem value_fixed (g : Game K) (hwf : WF g) (v : Array K) (hv : IsValue g v) :
    ∀ s < g.owners.size, Bell g v s = v.getD s 0 := by
  intro s hs
  have hle := hv.prefixed.bell_le s hs
  have hpre := hv.prefixed.lower hwf hs
    (Bell_nonneg hwf hs v fun _ _ => (value_range g hwf v hv _).1) hle
    (Bell_mono hwf hs _ v fun _ _ => setIfInBounds_le hle _)
  exact le_antisymm hle
    ((hv.least hpre s hs).trans_eq (getD_set_self _ _ (hv.prefixed.size ▸ hs)))

end Field

/-- **Existence of the value.**  Every well-formed game over the reals has a value: there is a
least pre-fixed point of the Bellman operator (least among ALL pre-fixed points in `[0,∞)`). -/
theorem value_exists (g : Game ℝ) (hwf : WF g) : ∃ v : Array ℝ, IsValue g v := by
  let v : Array ℝ := (Array.range g.owners.size).map fun s => sInf (Vals g s)
  have hvget : ∀ j, v.getD j 0 = if j < g.owners.size then sInf (Vals g j) else 0 :=
    fun j => getD_map_range _ _ _ _
  have hvsz : v.size = g.owners.size := by simp [v]
  -- `v` is below every pre-fixed point, at every index
  have hbelow : ∀ y, PreFixed g y → ∀ j, v.getD j 0 ≤ y.getD j 0 := fun y hy =>
    getD_forall₂ (· ≤ ·) le_rfl hvsz hy.size fun j hj => by
      rw [hvget, if_pos hj]; exact csInf_le (vals_bdd g hj) ⟨y, hy, rfl⟩
  refine ⟨v, ⟨hvsz, fun s hs => ?_, fun s hs => ?_⟩, fun y hy s _ => hbelow y hy s⟩
  · rw [hvget, if_pos hs]
    exact le_csInf (vals_nonempty g hwf s) (vals_nonneg g hs)
  · -- `Bell v s ≤ Bell y s ≤ y[s]` for every pre-fixed point `y`, by monotonicity
    rw [hvget, if_pos hs]
    refine le_csInf (vals_nonempty g hwf s) ?_
    rintro r ⟨y, hy, rfl⟩
    exact le_trans (Bell_mono hwf hs v y fun _ _ => hbelow y hy _) (hy.bell_le s hs)

/-- existence and uniqueness together -/
theorem value_exists_unique (g : Game ℝ) (hwf : WF g) : ∃! v : Array ℝ, IsValue g v := by
  obtain ⟨v, hv⟩ := value_exists g hwf
  exact ⟨v, hv, fun w hw => value_unique g w v hw hv⟩

/-- **C01 item 6 is about an existing object.**  A successful run over the reals reports a vector
that is pointwise below THE value of the game, which exists, is a fixed point of the Bellman
operator and has entries in `[0,1]`. -/
theorem reach_le_some_value {rnd : ℝ → Int} {thr : ℝ} {fuel : Nat} {prune : Bool} {g : Game ℝ}
    {r : ReachOut ℝ} (hwf : WF g) (H : solveReach rnd thr fuel prune g = .ok r) :
    ∃ v : Array ℝ, IsValue g v ∧
      (∀ s < g.owners.size, r.probs.getD s 0 ≤ v.getD s 0) ∧
      (∀ s < g.owners.size, Bell g v s = v.getD s 0) ∧
      (∀ s, 0 ≤ v.getD s 0 ∧ v.getD s 0 ≤ 1) := by
  obtain ⟨v, hv⟩ := value_exists g hwf
  exact ⟨v, hv, reach_le_value hwf H v hv, value_fixed g hwf v hv, value_range g hwf v hv⟩

/-- the hypothesis of `value_exists` is satisfiable, and the value it yields is pinned down at
the final state: every pre-fixed point is `≥ 1` there, the value is `≤ 1` -/
example : ∃ v : Array ℝ, IsValue exGameR v ∧ v.getD 1 0 = 1 := by
  obtain ⟨v, hv⟩ := value_exists exGameR exGameR_wf
  refine ⟨v, hv, le_antisymm (value_range _ exGameR_wf v hv 1).2 ?_⟩
  have := hv.prefixed.bell_le 1 (by decide)
  simpa [Bell, exGameR] using this

end CR.C01
