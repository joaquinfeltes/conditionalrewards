/-
C12: batch runs solve each game in isolation and report failures
(model: `CR/Model/Batch.lean`; helper lemmas: `CR/Lemmas/Validate.lean`).

`runOne thr fuel g` is "solving that game alone": it depends on nothing but the game itself.
`runGames thr fuel games = .ok d` is a batch run that was not aborted by an exception other
than `ValueError` (those are not caught by `run_games`).
-/
import CR.Lemmas.Validate

namespace CR.C12

open CR CR.Py CR.Batch CR.ValidateLemmas

/-- the input names are distinct AND no game is called like another one's `"_no_prune"` key -/
def NoClash (games : List (String × PyGame)) : Prop := (keysOf games).Nodup

/-- 1. every game has one pruned and one unpruned entry, and they are exactly what running that
game alone gives — whatever the other games in the file are, and in whatever order -/
theorem batch_isolated (thr : Float) (fuel : Nat) (games : List (String × PyGame))
    (d : List (String × Entry)) (hnc : NoClash games) (h : runGames thr fuel games = .ok d) :
    ∀ ng ∈ games, ∃ e1 e2, runOne thr fuel ng.2 = .ok (e1, e2) ∧
      lookup d ng.1 = some e1 ∧ lookup d (ng.1 ++ "_no_prune") = some e2 := by
  intro ng hng
  obtain ⟨hall, rfl⟩ := (runGames_ok_iff thr fuel games d hnc).1 h
  obtain ⟨⟨e1, e2⟩, hp⟩ := hall ng hng
  have hk : ((games.flatMap (entriesOf thr fuel)).map (·.1)).Nodup := by
    rw [keys_flatMap_entriesOf thr fuel games hall]; exact hnc
  refine ⟨e1, e2, hp, ?_, ?_⟩
  · rw [lookup_eq_some_iff _ _ _ hk]
    exact List.mem_flatMap.2 ⟨ng, hng, by simp [entriesOf, hp]⟩
  · rw [lookup_eq_some_iff _ _ _ hk]
    exact List.mem_flatMap.2 ⟨ng, hng, by simp [entriesOf, hp]⟩

/-- 2. the result has exactly one pruned and one unpruned key per game, in run order -/
theorem batch_order (thr : Float) (fuel : Nat) (games : List (String × PyGame))
    (d : List (String × Entry)) (hnc : NoClash games) (h : runGames thr fuel games = .ok d) :
    d.map (·.1) = keysOf games := by
  obtain ⟨hall, rfl⟩ := (runGames_ok_iff thr fuel games d hnc).1 h
  exact keys_flatMap_entriesOf thr fuel games hall

/-- 3. reordering the file changes no entry -/
theorem batch_perm (thr : Float) (fuel : Nat) (games games' : List (String × PyGame))
    (d : List (String × Entry)) (hnc : NoClash games) (hp : games'.Perm games)
    (h : runGames thr fuel games = .ok d) :
    ∃ d', runGames thr fuel games' = .ok d' ∧ ∀ k, lookup d' k = lookup d k := by
  obtain ⟨hall, rfl⟩ := (runGames_ok_iff thr fuel games d hnc).1 h
  have hnd' : (keysOf games').Nodup := ((keysOf_perm games games' hp).nodup_iff).2 hnc
  have hall' : ∀ ng ∈ games', ∃ p, runOne thr fuel ng.2 = .ok p :=
    fun ng hng => hall ng (hp.mem_iff.1 hng)
  refine ⟨_, (runGames_ok_iff thr fuel games' _ hnd').2 ⟨hall', rfl⟩, ?_⟩
  intro k
  refine lookup_perm _ _ ?_ (hp.flatMap_right _) k
  rw [keys_flatMap_entriesOf thr fuel games hall]; exact hnc

/-- 4. if the pruned solve fails with a `ValueError` (well-formedness or no-solution), the
pruned entry carries the error message, the unpruned entry is marked not solved, neither has a
result — and the batch goes on (the run of this game is `.ok`; by 1 the entries of the other
games are unaffected) -/
theorem batch_failure (thr : Float) (fuel : Nat) (g : PyGame) (e : Err)
    (h : solvePy thr fuel true g = .error e) (hv : isValueError e = true) :
    runOne thr fuel g = .ok
      (⟨g.players.length, countTransitions g, .error e, none⟩,
       ⟨g.players.length, countTransitions g, .notSolved, none⟩) :=
  runOne_failure thr fuel g e h hv

/-- 5. the state and transition counts of both entries are those of the game itself -/
theorem batch_counts (thr : Float) (fuel : Nat) (g : PyGame) (e1 e2 : Entry)
    (h : runOne thr fuel g = .ok (e1, e2)) :
    e1.nStates = g.players.length ∧ e1.nTransitions = countTransitions g ∧
    e2.nStates = g.players.length ∧ e2.nTransitions = countTransitions g := by
  unfold runOne at h
  -- the three `.ok` outcomes are pairs of entries built by `base`
  split at h
  · split at h
    · cases h; exact ⟨rfl, rfl, rfl, rfl⟩
    · split at h
      · cases h; exact ⟨rfl, rfl, rfl, rfl⟩
      · cases h
  · split at h
    · cases h; exact ⟨rfl, rfl, rfl, rfl⟩
    · cases h

/-- 6. if no single game aborts, the batch does not abort (no `NoClash` needed) -/
theorem batch_total (thr : Float) (fuel : Nat) (games : List (String × PyGame))
    (h : ∀ ng ∈ games, ∃ p, runOne thr fuel ng.2 = .ok p) :
    ∃ d, runGames thr fuel games = .ok d := by
  rw [runGames_eq]
  exact ⟨_, (runGames_loop_ok_iff thr fuel games [] _).2 ⟨h, rfl⟩⟩

/-- 6'. with `NoClash`, the batch succeeds exactly when every game alone does -/
theorem batch_ok_iff (thr : Float) (fuel : Nat) (games : List (String × PyGame))
    (hnc : NoClash games) :
    (∃ d, runGames thr fuel games = .ok d) ↔ ∀ ng ∈ games, ∃ p, runOne thr fuel ng.2 = .ok p :=
  ⟨fun ⟨d, h⟩ => ((runGames_ok_iff thr fuel games d hnc).1 h).1, batch_total thr fuel games⟩

/-- a malformed game (no states, hence no rewards) -/
def bad : PyGame := { rewards := [], players := [], tl := [], finals := [] }

example : NoClash [("a", bad), ("b", bad), ("a_no_prune_x", bad)] := by
  unfold NoClash; decide

example (thr : Float) (fuel : Nat) :
    ∃ d, runGames thr fuel [("a", bad), ("b", bad)] = .ok d ∧
      d.map (·.1) = ["a", "a_no_prune", "b", "b_no_prune"] :=
  ⟨_, rfl, by decide⟩

/-- 7. `NoClash` is necessary (recorded finding: the result keys `name` and
`name + "_no_prune"` collide): a file with the games `"a"` and `"a_no_prune"` yields only
3 entries, and the unpruned entry of `"a"` has been overwritten by the pruned entry of
`"a_no_prune"` -/
example (thr : Float) (fuel : Nat) :
    ¬ NoClash [("a", bad), ("a_no_prune", bad)] ∧
    ∃ d, runGames thr fuel [("a", bad), ("a_no_prune", bad)] = .ok d ∧
      d.map (·.1) = ["a", "a_no_prune", "a_no_prune_no_prune"] ∧
      ∃ e, lookup d "a_no_prune" = some e ∧ e.msg = .error (.malformed "min of empty rewards") :=
  ⟨by unfold NoClash; decide, _, rfl, by decide, _, rfl, rfl⟩

end CR.C12
