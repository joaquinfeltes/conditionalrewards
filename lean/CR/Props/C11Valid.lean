/-
C11, dynamically typed form: the generated games obey the DOCUMENTED rules of the solver.

`C11.gen_validates` shows that the generated games pass the solver's TYPED validation.  The
solver, however, validates the dynamically typed description the generator writes into the
`.py` file (`CR/Model/Validate.lean`: `validate`, characterised by `C09.DocWellFormed`).  This
file renders a generated game as such a description (`GenGame.toPy`) and proves that for every
well-formed board and ALL `Float` parameters (no range condition on the probabilities is needed
for the documented rules — they do not constrain the probability values) the description is
`DocWellFormed`, hence accepted by `validate`, hence `solvePy` on it is `solve` on the denoted
typed game, for which the typed validation cannot fail either (`C09Typed`).

Rendering conventions (`GenGame.toPy`): rewards and final states as Python `int`s, players as the
three documented strings, every row as a `list` of 2-`tuple`s `(label, int target)` where the label
is the action name (`str`) for player states and the probability for probabilistic states.  The
generator writes the integer literal `1` for certain transitions and a `float` otherwise; both are
accepted by `isinstance(x, (int, float))` (`isNumber`), and the rendering uses `.float p`
throughout.  The lemmas about rows come from `CR/Lemmas/Grid.lean`, which is generic in the
number type (`[Sub α] [OfNat α 0] [OfNat α 1]`), so they apply to `α := Float`.
-/
import CR.Props.C09Typed
import CR.Props.C08

namespace CR.Gen

open CR CR.Py

/-- the documented player string of an owner -/
def ownerName : Owner → String
  | .p1 => "Player 1"
  | .p2 => "Player 2"
  | .prob => "Probabilistic"

/-- one transition as the generator writes it: `(probability, target)` for a probabilistic
state, `(action, target)` for a player state -/
def trToPy (o : Owner) (t : Tr Float) : PyVal :=
  .tuple [match o with
          | .prob => .float t.p
          | _ => .str t.act,
          .int t.tgt]

/-- a generated game as the dynamically typed description written into the `.py` file -/
def GenGame.toPy (g : GenGame Float) : PyGame :=
  { rewards := g.rewards.map (fun r => .int (r : Nat))
    players := g.owners.map ownerName
    tl := (g.owners.zip g.tl).map (fun (o, row) => .list (row.map (trToPy o)))
    finals := g.finals.map (fun f => ((f : Nat) : Int)) }

end CR.Gen

namespace CR.C11

open CR CR.Py CR.Gen CR.Roborta CR.GridLemmas
open CR.C08 (N)

theorem playerOf_ownerName (o : Owner) : playerOf (ownerName o) = some o := by
  cases o <;> decide

theorem toPy_sizes (g : GenGame Float) :
    g.toPy.players.length = g.owners.length ∧ g.toPy.rewards.length = g.rewards.length ∧
    g.toPy.tl.length = min g.owners.length g.tl.length ∧ g.toPy.finals.length = g.finals.length := by
  simp [GenGame.toPy, List.length_zip]

theorem toPy_row (g : GenGame Float) (k : Nat) (hk : k < g.owners.length) (hk' : k < g.tl.length) :
    g.toPy.tl.getD k .none = .list ((g.tl.getD k []).map (trToPy (g.owners.getD k .prob))) := by
  have h1 : k < min g.owners.length g.tl.length := by omega
  simp [GenGame.toPy, List.getD_eq_getElem?_getD, List.length_zip, hk, hk', h1]

theorem toPy_player (g : GenGame Float) (k : Nat) (hk : k < g.owners.length) :
    g.toPy.players.getD k "" = ownerName (g.owners.getD k .prob) := by
  simp [GenGame.toPy, List.getD_eq_getElem?_getD, hk]

/-- reading the description back (`toGame`) gives the owners, final states, targets, action names
of player states and probabilities of probabilistic states of the generated game; the slot the
solver never looks at (probability of a player transition, name of a probabilistic one) is
normalised to `0` / `""` -/
theorem toGame_toPy (g : GenGame Float) (hlen : g.owners.length = g.tl.length) :
    (toGame g.toPy).owners = g.owners.toArray ∧
    (toGame g.toPy).finals = g.finals ∧
    (toGame g.toPy).rewards = (g.rewards.map Float.ofNat).toArray ∧
    ∀ k < g.owners.length, (toGame g.toPy).tl.getD k [] =
      (g.tl.getD k []).map (fun t =>
        match g.owners.getD k .prob with
        | .prob => { act := "", p := t.p, tgt := t.tgt }
        | _ => { act := t.act, p := 0, tgt := t.tgt }) := by
  have hown : (g.owners.map ownerName).map (fun p => (playerOf p).getD .prob) = g.owners := by
    rw [List.map_map]
    exact List.map_id'' (fun o => by simp [playerOf_ownerName]) _
  refine ⟨?_, ?_, ?_, ?_⟩
  · simp only [toGame, GenGame.toPy]; rw [hown]
  · simp only [toGame, GenGame.toPy, List.map_map]
    exact List.map_id'' (fun f => by simp) _
  · simp only [toGame, GenGame.toPy, List.map_map]
    congr 1
  · intro k hk
    have hk' : k < g.tl.length := hlen ▸ hk
    have hkp : k < g.toPy.players.length := by rw [(toPy_sizes g).1]; exact hk
    have hkt : k < g.toPy.tl.length := by rw [(toPy_sizes g).2.2.1]; exact Nat.lt_min.2 ⟨hk, hk'⟩
    rw [C09.toGame_row g.toPy k hkp hkt, toPy_row g k hk hk', toPy_player g k hk,
      playerOf_ownerName]
    simp only [Option.getD_some, rowOf, List.map_map]
    apply List.map_congr_left
    intro t _
    cases g.owners.getD k .prob <;> simp [trOf, trToPy, probOf, asInt]

/-- **a game with one row, reward and owner per state, a non-empty list of final states in
range and non-empty rows with targets in range renders to a documented description** — whatever
the probability values are -/
theorem toPy_doc_wellformed (g : GenGame Float) (h : WF g) : C09.DocWellFormed g.toPy := by
  obtain ⟨sp, sr, st, _⟩ := toPy_sizes g
  refine ⟨by rw [st, sp, h.tl_len, Nat.min_self], by rw [sr, sp, h.rew_len], ?_, ?_, ?_, ?_, ?_⟩
  · intro r hr
    simp only [GenGame.toPy, List.mem_map] at hr
    obtain ⟨n, _, rfl⟩ := hr
    simp [PyNum.isNeg]
  · simpa [GenGame.toPy] using h.finals_ne
  · intro f hf
    simp only [GenGame.toPy, List.mem_map] at hf
    obtain ⟨n, hn, rfl⟩ := hf
    rw [sp]
    exact ⟨Int.natCast_nonneg n, Int.ofNat_lt.2 (h.finals_lt n hn)⟩
  · intro p hp
    simp only [GenGame.toPy, List.mem_map] at hp
    obtain ⟨o, _, rfl⟩ := hp
    cases o <;> simp [ownerName]
  · intro k hk
    rw [sp] at hk
    have hk' : k < g.tl.length := h.tl_len ▸ hk
    obtain ⟨hne, htg⟩ := h.rows _ (getD_mem_of_lt g.tl k [] hk')
    refine ⟨_, toPy_row g k hk hk', by simpa using hne, ?_⟩
    intro e he
    obtain ⟨t, ht, rfl⟩ := List.mem_map.mp he
    have hi : ((t.tgt : Nat) : Int) < g.toPy.players.length := by
      rw [sp]; exact Int.ofNat_lt.2 (htg t ht)
    -- the first slot is a number exactly for the owner whose rendered name is "Probabilistic"
    rw [toPy_player g k hk]
    cases g.owners.getD k .prob <;>
      exact ⟨_, _, (t.tgt : Int), rfl, by simp [ownerName, isNumber], by simp [ownerName, isStr],
        rfl, Int.natCast_nonneg _, hi⟩

/-- **C11, documented rules.**  For every well-formed board and ALL `Float` parameters, each of
the generated games A, B, C, as written into the `.py` file, obeys every documented rule -/
theorem gen_doc_wellformed (v : Variant) (L W : Nat) (b : Board) (hb : BoardOK L W b)
    (q : Params Float) : C09.DocWellFormed (genGame v L W b q).toPy :=
  toPy_doc_wellformed _ (genGame_wf hb q)

/-- … hence the solver's validation of the written description accepts it -/
theorem gen_validate_ok (v : Variant) (L W : Nat) (b : Board) (hb : BoardOK L W b)
    (q : Params Float) : validate (genGame v L W b q).toPy = .ok () :=
  C09.validate_sound _ (gen_doc_wellformed v L W b hb q)

/-- … and solving the written description is solving the denoted typed game, whose typed
validation cannot fail: the only possible `ValueError` is "no solution" -/
theorem gen_solvePy (v : Variant) (L W : Nat) (b : Board) (hb : BoardOK L W b)
    (q : Params Float) (thr : Float) (fuel : Nat) (prune : Bool) :
    solvePy thr fuel prune (genGame v L W b q).toPy =
      solve (roundFloat 6) thr fuel prune (toGame (genGame v L W b q).toPy) ∧
    checkGame (toGame (genGame v L W b q).toPy) = .ok () ∧
    initStates (toGame (genGame v L W b q).toPy) = .ok () :=
  ⟨C09.solvePy_eq_solve_of_valid thr fuel prune _ (gen_validate_ok v L W b hb q),
    C09.typed_validation_redundant _ (gen_validate_ok v L W b hb q)⟩

/-- the number of states of the written description -/
theorem gen_toPy_states (v : Variant) (L W : Nat) (b : Board) (q : Params Float) :
    (genGame v L W b q).toPy.players.length = N v L W := by
  rw [(toPy_sizes _).1, genGame_owners_length, C08.N_eq_nGroups]

/-! ## Non-vacuity: the 2×1 and the 1×2 board of `CR.C08`, parameters `0.1, 0.2, 0.3` -/

open CR.C08 (b21 b12 b21_ok b12_ok)

example : BoardOK 2 1 b21 := b21_ok
example : BoardOK 1 2 b12 := b12_ok

/-- instances of the theorems; the second one with parameters far outside `(0,1)` (a NaN and a
negative number): the documented rules do not look at the probability values -/
example : C09.DocWellFormed (gameC 2 1 b21 (0.1 : Float) 0.2 0.3).toPy :=
  gen_doc_wellformed .C 2 1 b21 b21_ok ⟨0.1, 0.2, 0.3⟩

example : validate (gameB 1 2 b12 ((0 : Float) / 0) (-5)).toPy = .ok () :=
  gen_validate_ok .B 1 2 b12 b12_ok ⟨(0 : Float) / 0, -5, 0.3⟩

/-- the validator evaluated on a rendered game (10 states) -/
example : (validate (gameA 1 2 b12 (0.1 : Float)).toPy).toBool = true := by decide +kernel

/-- the rendering of the 1×2 game A: players and the shape of three rows -/
example : (gameA 1 2 b12 (0.1 : Float)).toPy.players =
    ["Player 2", "Player 2", "Player 1", "Player 1", "Player 1", "Player 1",
     "Probabilistic", "Probabilistic", "Probabilistic", "Probabilistic"] := by decide

example : (gameA 1 2 b12 (0.1 : Float)).toPy.finals = [9] := by decide +kernel

/-- a player row and a chance row as written: `(action, target)` resp. `(probability, target)` -/
example : (gameA 1 2 b12 (0.1 : Float)).toPy.tl.getD 0 .none =
    .list [.tuple [.str "Green", .int 2], .tuple [.str "Yellow", .int 4]] := by rfl
example : (gameA 1 2 b12 (0.1 : Float)).toPy.tl.getD 7 .none =
    .list [.tuple [.float 0.1, .int 8], .tuple [.float (1 - 0.1), .int 1]] := by rfl

end CR.C11
