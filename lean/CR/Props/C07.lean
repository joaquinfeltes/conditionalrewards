/-
C07: correctness of the reversed-transition table and of the backward search `reverseDfs`
(model: `CR/Model/Rdfs.lean`; helper lemmas: `CR/Lemmas/Rdfs.lean`).
-/
import CR.Lemmas.Rdfs

namespace CR.C07

open CR CR.RdfsLemmas

/-- `u → v` is a transition: `v` occurs in row `u` of the transition list -/
def Edge (tl : List (List Nat)) (u v : Nat) : Prop := v ∈ tl.getD u []

/-- reflexive-transitive closure of `Edge` -/
def Reach (tl : List (List Nat)) : Nat → Nat → Prop := Relation.ReflTransGen (Edge tl)

/-- all targets and all final states are states `0..n-1` -/
def InRange (tl : List (List Nat)) (finals : List Nat) : Prop :=
  (∀ row ∈ tl, ∀ v ∈ row, v < tl.length) ∧ (∀ f ∈ finals, f < tl.length)

/-- 1. the table has exactly the keys `0..n-1` -/
theorem rev_table_size (tl : List (List Nat)) : (revTable tl).size = tl.length :=
  revTable_size tl

/-- 2. `u` is listed under `v` once per transition from `u` to `v`
(the range hypothesis on the rows of `tl` is not needed) -/
theorem rev_table_count (tl : List (List Nat)) (u v : Nat) (hv : v < tl.length) :
    ((revTable tl).getD v []).count u = (tl.getD u []).count v :=
  revTable_count tl u v hv

/-- 3. membership: the non-final states from which some final state is reachable
(only the range hypothesis on the rows of `tl` is needed, not the one on `finals`) -/
theorem rdfs_mem (tl : List (List Nat)) (finals : List Nat)
    (h : ∀ row ∈ tl, ∀ v ∈ row, v < tl.length) (s : Nat) :
    s ∈ reverseDfs tl finals ↔ (s ∉ finals ∧ ∃ f ∈ finals, Reach tl s f) := by
  have hE : Listed (revTable tl) = Edge tl := by
    funext u v
    exact propext (listed_revTable_iff h)
  rw [mem_reverseDfs, mem_allFrom_iff, hE, and_comm]
  rfl

/-- 4. strictly ascending: sorted, and every state exactly once (no hypothesis needed) -/
theorem rdfs_sorted (tl : List (List Nat)) (finals : List Nat) :
    (reverseDfs tl finals).Pairwise (· < ·) :=
  reverseDfs_sorted_lt tl finals

/-- 5. (3) and (4) determine the output uniquely -/
theorem rdfs_unique (tl : List (List Nat)) (finals : List Nat)
    (h : ∀ row ∈ tl, ∀ v ∈ row, v < tl.length) (l : List Nat) (hs : l.Pairwise (· < ·))
    (hm : ∀ s, s ∈ l ↔ (s ∉ finals ∧ ∃ f ∈ finals, Reach tl s f)) :
    reverseDfs tl finals = l :=
  eq_of_sorted_lt_of_mem_iff (rdfs_sorted tl finals) hs
    (fun s => (rdfs_mem tl finals h s).trans (hm s).symm)

/-! The same with the range hypotheses that the proofs do not need (`InRange` also bounds `finals`). -/

example (tl : List (List Nat)) (_h : ∀ row ∈ tl, ∀ v ∈ row, v < tl.length) (u v : Nat)
    (hv : v < tl.length) : ((revTable tl).getD v []).count u = (tl.getD u []).count v :=
  rev_table_count tl u v hv

example (tl : List (List Nat)) (finals : List Nat) (h : InRange tl finals) (s : Nat) :
    s ∈ reverseDfs tl finals ↔ (s ∉ finals ∧ ∃ f ∈ finals, Reach tl s f) :=
  rdfs_mem tl finals h.1 s

example (tl : List (List Nat)) (finals : List Nat) (h : InRange tl finals) (l : List Nat)
    (hs : l.Pairwise (· < ·))
    (hm : ∀ s, s ∈ l ↔ (s ∉ finals ∧ ∃ f ∈ finals, Reach tl s f)) : reverseDfs tl finals = l :=
  rdfs_unique tl finals h.1 l hs hm

/-! ## Non-vacuity

Graph `g` on states `0..7`:
`0 → 1, 2`; `1 → 3` (twice); `2 → 3, 0` (cycle `0 → 2 → 0`; diamond `0 → {1,2} → 3`);
`3 → 3, 4` (self-loop); `4 → 4, 5`; `5 → 6`, `6 → 5` (a cycle that cannot reach `4`);
`7 → 0` (a source). -/

def g : List (List Nat) := [[1, 2], [3, 3], [3, 0], [3, 4], [4, 5], [6], [5], [0]]

example : InRange g [4] := by unfold InRange; decide
example : InRange g [4, 3] := by unfold InRange; decide

theorem revTable_g : revTable g = #[[2, 7], [0], [0], [1, 1, 2, 3], [3, 4], [4, 6], [5], []] := by decide

example : revTable g = #[[2, 7], [0], [0], [1, 1, 2, 3], [3, 4], [4, 6], [5], []] := revTable_g

theorem g_rdfs4 : reverseDfs g [4] = [0, 1, 2, 3, 7] :=
  reverseDfs_eq_of 20 (all := [7, 2, 0, 1, 3, 4]) (by rw [revTable_g]; decide) (by decide) (by decide)

theorem g_rdfs43 : reverseDfs g [4, 3] = [0, 1, 2, 7] :=
  reverseDfs_eq_of 20 (all := [7, 2, 0, 1, 3, 4]) (by rw [revTable_g]; decide) (by decide) (by decide)

example : reverseDfs g [4] = [0, 1, 2, 3, 7] := g_rdfs4

example : reverseDfs g [4, 3] = [0, 1, 2, 7] := g_rdfs43

example : reverseDfs g [] = [] := by
  simp [reverseDfs]

example : reverseDfs [[0, 1], [1]] [1] = [0] :=
  reverseDfs_eq_of 5 (all := [0, 1]) (by decide) (by decide) (by decide)

/-- the hypotheses of `rdfs_mem` hold for the example and both sides of it are inhabited -/
example : 7 ∉ [4] ∧ ∃ f ∈ [4], Reach g 7 f :=
  (rdfs_mem g [4] (by decide) 7).1 (by rw [g_rdfs4]; decide)

example : ¬ ∃ f ∈ [4], Reach g 5 f := fun hr =>
  absurd ((rdfs_mem g [4] (by decide) 5).2 ⟨by decide, hr⟩) (by rw [g_rdfs4]; decide)

/-- the range hypothesis on the rows cannot be dropped from `rdfs_mem`: with a target outside
`0..n-1` the table has no slot for it and the search misses its predecessors -/
example : reverseDfs [[1]] [1] = [] ∧ (0 ∉ [1] ∧ ∃ f ∈ [1], Reach [[1]] 0 f) := by
  refine ⟨reverseDfs_eq_of 2 (all := [1]) (by decide) (by decide) (by decide), by decide, 1, by simp, ?_⟩
  exact Relation.ReflTransGen.single (by simp [Edge])

end CR.C07
