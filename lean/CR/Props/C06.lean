/-
Property C06: termination and error-freeness of the solver.

"For every well-formed stopping game the solver terminates and returns a complete result
(strategies, rewards and probabilities for every state), except that with pruning on it raises its
'no solution' error exactly when the initial state's reachability value is 0.  It never fails with
any other error and never iterates forever, whatever the number and arrangement of
zero-probability states."

The model is `CR.solve` / `CR.solveReach` of `CR/Model/Solver.lean`, over an arbitrary linearly
ordered field `K`, with an arbitrary rounding function `rnd : K → Int`, an arbitrary threshold and
arbitrary fuel (except where a hypothesis says otherwise).  The two `while diff > threshold` loops
of the Python code are modelled with a fuel argument; "`outOfFuel` is not returned" is the model's
way of saying "the loop exits within `fuel` sweeps".

What IS proved here
* `validation_passes`    : `check_game` and `init_states` accept every well-formed game;
* `reach_terminates`     : the reachability loop exits within any `fuel` with `n < fuel * thr`
                           (`n` the number of states, `thr > 0` the threshold), i.e. after at most
                           `⌊n / thr⌋ + 1` sweeps — unconditionally, for every well-formed game;
* `reach_outcome`        : hence, under that fuel bound, `solveReach` returns a result or (pruning
                           on) 'no solution';
* `no_solution_iff`      : 'no solution' is raised exactly when pruning is on and the reported
                           reachability value of state 0 is 0;
* `no_other_error`       : the only other possible failure of the model is `outOfFuel`; in particular
                           never `malformed`, `unbound` (UnboundLocalError in Player 1's reward
                           step) or `zeroDiv` (ZeroDivisionError in the renormalisation), however
                           many zero-probability successors a state has and wherever they sit;
* `solve_outOfFuel_is_reward_loop` : under the fuel bound of `reach_terminates`, an `outOfFuel`
                           outcome of `solve` can only come from the reward loop;
* `result_complete`      : an `.ok` result carries one strategy entry, reward, probability and
                           diagnostic value per state;
* `rewards_terminate_of_ranked`, `solve_terminates_of_ranked` : the reward loop exits within
                           `R + 2` sweeps when the conditioned transition lists are acyclic apart
                           from absorbing states (`R` the maximal rank).

What is NOT proved here
* termination of the REWARD loop (`viRew`) on CYCLIC stopping games.  Its exit test
  `max(|Δ expected reward|, |Δ reward-under-min-reach|, |Δ prob-under-min-reward|) ≤ thr` also waits
  for two diagnostic quantities that are not monotone along the iteration, so the potential
  argument used for the reachability loop does not apply; moreover the theorem would need the
  stopping assumption in a quantitative form.  Consequently `outOfFuel` remains a possible outcome
  in `no_other_error`, and "never iterates forever" is established here for the reachability loop
  only; for the reward loop it rests on the correspondence / oracle checks (Python runs of the
  generated stopping games terminate and agree with the model).

Helper lemmas live in `CR/Lemmas/Term.lean`.
-/
import CR.Lemmas.Term
import CR.Lemmas.Rew
import CR.Props.C01
import CR.Props.C03
import CR.Props.C04
import Mathlib.Algebra.Order.Field.Rat
import Mathlib.Tactic.NormNum

namespace CR.C06

open CR CR.VI CR.Term

variable {K : Type} [Field K] [LinearOrder K] [IsStrictOrderedRing K]

/-- the documented well-formedness of a game, typed part: at least one state; one transition list
and one reward per state; rewards non-negative; at least one final state, all in range; every
state has a non-empty transition list with targets in range; the transition list of a
probabilistic state is a distribution with strictly positive weights -/
def WFull (g : Game K) : Prop :=
  0 < g.owners.size ∧ g.tl.size = g.owners.size ∧ g.rewards.size = g.owners.size ∧
  (∀ s < g.owners.size, 0 ≤ g.rewards.getD s 0) ∧
  g.finals ≠ [] ∧ (∀ f ∈ g.finals, f < g.owners.size) ∧
  (∀ s < g.owners.size, g.tl.getD s [] ≠ [] ∧ ∀ t ∈ g.tl.getD s [], t.tgt < g.owners.size) ∧
  (∀ s < g.owners.size, g.owners.getD s .prob = .prob →
    (∀ t ∈ g.tl.getD s [], 0 < t.p) ∧ ((g.tl.getD s []).map (·.p)).sum = 1)

section
variable {rnd : K → Int} {thr : K} {fuel : Nat} {prune : Bool} {g : Game K}

omit [IsStrictOrderedRing K] in
theorem WFull.shape (h : WFull g) : Shape g := h.2.1

omit [IsStrictOrderedRing K] in
theorem WFull.rewards_size (h : WFull g) : g.rewards.size = g.owners.size := h.2.2.1

omit [IsStrictOrderedRing K] in
theorem WFull.rows (h : WFull g) :
    ∀ s < g.owners.size, g.tl.getD s [] ≠ [] ∧ ∀ t ∈ g.tl.getD s [], t.tgt < g.owners.size :=
  h.2.2.2.2.2.2.1

omit [IsStrictOrderedRing K] in
theorem WFull.probRows (h : WFull g) : ProbRowsOK g := h.2.2.2.2.2.2.2

omit [IsStrictOrderedRing K] in
theorem WFull.rewards_nonneg (h : WFull g) : ∀ s, 0 ≤ g.rewards.getD s 0 :=
  getD_forall (0 ≤ ·) le_rfl (h.rewards_size ▸ h.2.2.2.1)

theorem WFull.condition_ok (h : WFull g) (prune : Bool) (strat : Array Strat) (reach : Array K) :
    ∃ nodes, condition prune g strat reach = .ok nodes := by
  cases prune
  · exact ⟨_, condition_false_eq g strat reach⟩
  · exact C03.condition_total h.shape h.probRows strat reach

theorem WFull.condition_nonneg (h : WFull g) {strat : Array Strat} {reach : Array K}
    {nodes : Array (List (Tr K))} (hcond : condition prune g strat reach = .ok nodes) (s : Nat) :
    RowNonneg g.owners nodes s := fun ho t ht =>
  le_of_lt (condition_prob_pos h.shape (fun s hs ho => (h.probRows s hs ho).1) hcond s ho t ht)

omit [IsStrictOrderedRing K] in
theorem WFull.wf (h : WFull g) : C01.WF g :=
  ⟨h.shape, fun s hs => (h.rows s hs).2, fun s hs ho =>
    ⟨fun t ht => le_of_lt ((h.probRows s hs ho).1 t ht), (h.probRows s hs ho).2⟩⟩

omit [IsStrictOrderedRing K] in
/-- 1. validation accepts every well-formed game -/
theorem validation_passes (h : WFull g) : checkGame g = .ok () ∧ initStates g = .ok () := by
  obtain ⟨hn, htl, hr, hnn, hf, hfin, hrow, _⟩ := h
  exact ⟨checkGame_eq_ok.mpr ⟨htl, hr, by omega,
      (forall_mem_iff_getD 0).mpr fun i hi => not_lt.mpr (hnn i (hr ▸ hi)), hf, hfin⟩,
    initStates_eq_ok.mpr ((forall_mem_iff_getD []).mpr fun i hi => hrow i (htl ▸ hi))⟩

omit [IsStrictOrderedRing K] in
theorem solveReach_eq_of_wfull (h : WFull g) :
    solveReach rnd thr fuel prune g =
      viReach g.owners g.tl (gameOrder g) thr fuel 1 (initVec g) 0 >>= fun x =>
      if (prune && (x.1.getD 0 0 == 0)) = true then .error .noSolution
      else .ok { probs := x.1, strat := reachStrategies rnd g.owners g.tl x.1, iters := x.2,
                 order := gameOrder g } := by
  rw [solveReach_eq (validation_passes h).1 (validation_passes h).2]
  unfold gameOrder initVec
  generalize viReach g.owners g.tl _ thr fuel 1 _ 0 = x
  cases x <;> rfl

omit [IsStrictOrderedRing K] in
theorem solveReach_error (h : WFull g) {e : Err} (he : solveReach rnd thr fuel prune g = .error e) :
    (e = .noSolution ∧ prune = true) ∨ (e = .outOfFuel ∧
      viReach g.owners g.tl (gameOrder g) thr fuel 1 (initVec g) 0 = .error .outOfFuel) := by
  rw [solveReach_eq_of_wfull h, bind_eq_error] at he
  rcases he with hv | ⟨x, _, hx⟩
  · obtain rfl := viReach_error_eq_outOfFuel hv
    exact Or.inr ⟨rfl, hv⟩
  · split_ifs at hx with hp
    cases hx
    exact Or.inl ⟨rfl, (Bool.and_eq_true _ _ ▸ hp).1⟩

/-- 2. the reachability loop terminates: on a well-formed game, with a positive threshold, it
exits within any fuel `fuel` such that `n < fuel * thr` — pruning on or off.
(`0 < thr` is implied by the fuel bound and is listed only for readability.) -/
theorem reach_terminates (h : WFull g) (_hthr : 0 < thr) (fuel : Nat)
    (hfuel : (g.owners.size : K) < (fuel : K) * thr) (prune : Bool) :
    solveReach rnd thr fuel prune g ≠ .error .outOfFuel := by
  intro he
  rcases solveReach_error h he with ⟨hn, _⟩ | ⟨_, hv⟩
  · cases hn
  · -- `Σ x ≥ 0` at the start
    exact viReach_terminates h.wf.size h.wf.rowNonneg h.wf.rowSumOne thr fuel 1 0 0
      (fun _ => lt_add_of_lt_of_nonneg hfuel (vsum_nonneg (iter g 0) g.owners.size fun j =>
        (iter_range h.wf.rowNonneg h.wf.rowSumOne 0 j).1)) hv

/-- 2'. consequently, under the fuel bound, `solveReach` returns a result, or (only with pruning
on) 'no solution' -/
theorem reach_outcome (h : WFull g) (hthr : 0 < thr) (fuel : Nat)
    (hfuel : (g.owners.size : K) < (fuel : K) * thr) (prune : Bool) :
    (∃ r, solveReach rnd thr fuel prune g = .ok r) ∨
      (prune = true ∧ solveReach rnd thr fuel prune g = .error .noSolution) := by
  cases he : solveReach rnd thr fuel prune g with
  | ok r => exact Or.inl ⟨r, rfl⟩
  | error e =>
    rcases solveReach_error h he with ⟨rfl, hp⟩ | ⟨rfl, _⟩
    · exact Or.inr ⟨hp, rfl⟩
    · exact absurd he (reach_terminates h hthr fuel hfuel prune)

/-- on a well-formed game `solve` fails only where `solveReach` does, or by the reward loop running
out of fuel: conditioning succeeds, and the expected rewards stay `≥ 0`, so Player 1's reward step
always finds a successor -/
theorem solve_error_wf (h : WFull g) {e : Err} (he : solve rnd thr fuel prune g = .error e) :
    solveReach rnd thr fuel prune g = .error e ∨
      e = .outOfFuel ∧ ∃ ro nodes, solveReach rnd thr fuel prune g = .ok ro ∧
        condition prune g ro.strat ro.probs = .ok nodes ∧
        viRew rnd g.owners g.rewards nodes ro.probs thr fuel 1
          { er := g.rewards, ermr := g.rewards, pmr := ro.probs } 0 = .error e := by
  rcases solve_eq_error.mp he with hr | ⟨ro, hro, hcond | ⟨nodes, hcond, hvi⟩⟩
  · exact Or.inl hr
  · obtain ⟨nodes, hn⟩ := h.condition_ok prune ro.strat ro.probs
    rw [hn] at hcond
    cases hcond
  · exact Or.inr ⟨Rew.viRew_error_eq_outOfFuel (fun v => ∀ j, 0 ≤ v.er.getD j 0)
      (Rew.sweepRew_nonneg (fun s _ => h.rewards_nonneg s) fun s _ => h.condition_nonneg hcond s)
      thr fuel 1 { er := g.rewards, ermr := g.rewards, pmr := ro.probs } 0 e h.rewards_nonneg hvi,
      ro, nodes, hro, hcond, hvi⟩

/-- 3. 'no solution' is raised exactly when pruning is on and the reported reachability
probability of the initial state is 0; it is never raised with pruning off -/
theorem no_solution_iff (h : WFull g) :
    (solve rnd thr fuel true g = .error .noSolution ↔
      ∃ r, solveReach rnd thr fuel false g = .ok r ∧ r.probs.getD 0 0 = 0) ∧
    solve rnd thr fuel false g ≠ .error .noSolution := by
  have key : ∀ prune, solve rnd thr fuel prune g = .error .noSolution ↔
      solveReach rnd thr fuel prune g = .error .noSolution := fun prune =>
    ⟨fun he => (solve_error_wf h he).resolve_right fun h' => (nomatch h'.1),
      fun he => solve_eq_error.mpr (.inl he)⟩
  refine ⟨?_, fun he => ?_⟩
  · rw [key, solveReach_true_eq_error]
    constructor
    · rintro (hf | ⟨r, hr, hz, _⟩)
      · rcases solveReach_error h hf with ⟨_, hp⟩ | ⟨hp, _⟩ <;> cases hp
      · exact ⟨r, hr, beq_iff_eq.mp hz⟩
    · rintro ⟨r, hr, h0⟩
      exact Or.inr ⟨r, hr, beq_iff_eq.mpr h0, rfl⟩
  · rcases solveReach_error h ((key false).mp he) with ⟨_, hp⟩ | ⟨hp, _⟩ <;> cases hp

/-- 4. on a well-formed game the solver never fails with an error other than 'no solution' and
(in the model) fuel exhaustion: never `malformed`, `unbound` or `zeroDiv`, whatever the number and
arrangement of zero-probability states -/
theorem no_other_error (h : WFull g) {e : Err} (he : solve rnd thr fuel prune g = .error e) :
    e = .noSolution ∨ e = .outOfFuel := by
  rcases solve_error_wf h he with hr | ⟨h1, _⟩
  · exact (solveReach_error h hr).imp And.left And.left
  · exact Or.inr h1

/-- 4'. with the fuel bound of `reach_terminates`, fuel exhaustion can only come from the reward
loop: the reachability phase returned a result `ro`, conditioning succeeded, and `viRew` is what
ran out of fuel -/
theorem solve_outOfFuel_is_reward_loop (h : WFull g) (hthr : 0 < thr)
    (hfuel : (g.owners.size : K) < (fuel : K) * thr)
    (he : solve rnd thr fuel prune g = .error .outOfFuel) :
    ∃ ro nodes, solveReach rnd thr fuel prune g = .ok ro ∧
      condition prune g ro.strat ro.probs = .ok nodes ∧
      viRew rnd g.owners g.rewards nodes ro.probs thr fuel 1
        { er := g.rewards, ermr := g.rewards, pmr := ro.probs } 0 = .error .outOfFuel := by
  rcases solve_error_wf h he with hr | ⟨_, h2⟩
  · exact absurd hr (reach_terminates h hthr fuel hfuel prune)
  · exact h2

/-- 5. an `.ok` result is complete: one entry per state in every reported vector -/
theorem result_complete {out : SolveOut K} (h : solve rnd thr fuel prune g = .ok out) :
    out.finalStrat.size = g.owners.size ∧ out.reachStrat.size = g.owners.size ∧
    out.rewards.size = g.owners.size ∧ out.probs.size = g.owners.size ∧
    out.probMinRew.size = g.owners.size ∧ out.rewMinReach.size = g.owners.size := by
  obtain ⟨ro, hro, _, _, h1, h2, h4, _⟩ := solve_eq_ok.mp h
  obtain ⟨s1, s2, s3⟩ := Rew.solve_sized h
  exact ⟨by rw [h1]; exact rewardStrategies_size _ _ _ _,
    by rw [h2, solveReach_strat hro]; exact reachStrategies_size _ _ _ _, s1,
    by rw [h4]; exact C01.reach_size hro, s3, s2⟩

/-- 6. the reward loop on node lists that are acyclic apart from absorbing states.  Let every
non-absorbing state `s` have all its successors in range and either absorbing or of strictly
smaller rank (`rk`, bounded by `R`).  With non-negative rewards, non-negative probabilities,
non-negative initial expected rewards, vectors of length `n`, threshold `≥ 0` and `fuel ≥ R + 2`,
the reward loop — started from ANY `diff`, vectors and counter — returns a result after at most
`R + 2` sweeps.  (Invariant, `Rank.viRew_ranked_from_level` / `Term.stab_sweep`: after `k` sweeps
every state that is absorbing or of rank `< k` is settled in all three tracked vectors — re-evaluating it
reproduces its value, and no later sweep changes it; after `R + 1` sweeps all states are settled
and sweep `R + 2` reports `diff = 0`.) -/
theorem rewards_terminate_of_ranked {o : Array Owner} {rewards : Array K}
    {nodes : Array (List (Tr K))} {reach : Array K} (rk : Nat → Nat) (R : Nat)
    (hR : ∀ s < o.size, rk s ≤ R)
    (hrank : ∀ s < o.size, ¬ Absorbing o rewards nodes s → ∀ t ∈ nodes.getD s [],
      t.tgt < o.size ∧ (Absorbing o rewards nodes t.tgt ∨ rk t.tgt < rk s))
    (hr : ∀ s, 0 ≤ rewards.getD s 0)
    (hp : ∀ s, o.getD s .prob = .prob → ∀ t ∈ nodes.getD s [], 0 ≤ t.p)
    (hthr : 0 ≤ thr) (hfuel : R + 2 ≤ fuel) (diff : K) (v : RewVecs K) (i : Nat)
    (hsz : v.er.size = o.size ∧ v.ermr.size = o.size ∧ v.pmr.size = o.size)
    (hv : ∀ j, 0 ≤ v.er.getD j 0) :
    ∃ r, viRew rnd o rewards nodes reach thr fuel diff v i = .ok r ∧ r.2 ≤ i + (R + 2) :=
  Rank.viRew_ranked_from_level ⟨hR, hrank⟩ (fun s _ => hr s) (fun s _ => hp s) hthr
    (Nat.zero_add _) hfuel diff i hsz hv (Rank.stab_low_zero rk v)

/-- 6'. the same for the whole pipeline: on a well-formed game whose CONDITIONED node lists are
acyclic apart from absorbing states (rank bounded by `R`), if the reachability phase returned a
result and `fuel ≥ R + 2`, `thr ≥ 0`, then `solve` returns a result, after at most `R + 2` sweeps
of the reward loop -/
theorem solve_terminates_of_ranked (h : WFull g) {ro : ReachOut K} {nodes : Array (List (Tr K))}
    (hro : solveReach rnd thr fuel prune g = .ok ro)
    (hcond : condition prune g ro.strat ro.probs = .ok nodes)
    (rk : Nat → Nat) (R : Nat) (hR : ∀ s < g.owners.size, rk s ≤ R)
    (hrank : ∀ s < g.owners.size, ¬ Absorbing g.owners g.rewards nodes s →
      ∀ t ∈ nodes.getD s [], Absorbing g.owners g.rewards nodes t.tgt ∨ rk t.tgt < rk s)
    (hthr : 0 ≤ thr) (hfuel : R + 2 ≤ fuel) :
    ∃ out, solve rnd thr fuel prune g = .ok out ∧ out.nodes = nodes ∧ out.itRew ≤ R + 2 := by
  have hrew := h.rewards_nonneg
  obtain ⟨⟨v, j⟩, hvi, hj⟩ := rewards_terminate_of_ranked (rnd := rnd) (reach := ro.probs) rk R hR
    (fun s hs hna t ht => by
      obtain ⟨t', ht', he⟩ := condition_tgt_mem hcond s t ht
      exact ⟨he ▸ (h.rows s hs).2 t' ht', hrank s hs hna t ht⟩)
    hrew (h.condition_nonneg hcond) hthr hfuel 1
    { er := g.rewards, ermr := g.rewards, pmr := ro.probs } 0
    ⟨h.rewards_size, h.rewards_size, C01.reach_size hro⟩ hrew
  exact ⟨⟨rewardStrategies rnd g.owners nodes v.er, _, v.er, _, _, j, v.pmr, v.ermr, nodes⟩,
    solve_eq_ok.mpr ⟨ro, hro, hcond, hvi, rfl, rfl, rfl, rfl⟩, rfl, by simpa using hj⟩

end

/-! ### non-vacuity

`exGame` (over `Rat`): states 0 and 1 form a probabilistic cycle (0 → 1 → 0, and 0 → 5 → 1 → 0 through
the Player-1 state 5); state 2 is final and absorbing; states 3 (probabilistic) and 4 (Player 2)
are absorbing sinks with reachability value 0.  State 0 has the two dead successors 3 and 4,
separated by a live one; the Player-1 state 5 has the dead successor 3. -/

section NonVacuity

private def tr (a : String) (p : Rat) (t : Nat) : Tr Rat := { act := a, p := p, tgt := t }

private def exGame : Game Rat :=
  { rewards := #[1, 2, 0, 0, 0, 1]
    owners := #[.prob, .prob, .prob, .prob, .p2, .p1]
    tl := #[ [tr "" (1/4) 3, tr "" (1/4) 1, tr "" (1/4) 4, tr "" (1/4) 5],
             [tr "" (1/2) 0, tr "" (1/2) 2],
             [tr "" 1 2],
             [tr "" 1 3],
             [tr "x" 0 4],
             [tr "a" 0 1, tr "b" 0 3] ]
    finals := [2] }

/-- `WFull` is satisfiable by a game with a probabilistic cycle and two dead successors -/
private theorem exWF : WFull exGame := by
  unfold WFull
  decide +kernel

example : WFull exGame := exWF

/-- the fuel bound of `reach_terminates` is satisfiable: 6 states, threshold 1/10, fuel 61 -/
example : ((exGame.owners.size : Nat) : Rat) < ((61 : Nat) : Rat) * (1/10) := by
  norm_num [exGame]

/-- `reach_terminates` instantiated -/
example (rnd : Rat → Int) (prune : Bool) :
    solveReach rnd (1/10) 61 prune exGame ≠ .error .outOfFuel :=
  reach_terminates exWF (by norm_num) 61 (by norm_num [exGame]) prune

/-- `reverseDfs` is defined by well-founded recursion and does not reduce in the kernel -/
private theorem exOrd :
    reverseDfs (exGame.tl.toList.map (fun row => row.map (·.tgt))) exGame.finals = [0, 1, 5] :=
  RdfsLemmas.reverseDfs_eq_of 10 (all := [5, 0, 1, 2]) (by decide +kernel) (by decide)
    (by decide)

/-- the reachability phase on `exGame`, the same in both pruning modes, evaluated once -/
private def exReach : ReachOut Rat :=
  ⟨#[5/16, 21/32, 1, 0, 0, 21/32], #[none, none, none, none, some ["x"], some ["a"]], 3, [0, 1, 5]⟩

private theorem exReach_false :
    solveReach (roundRat 6) (1/10 : Rat) 61 false exGame = .ok exReach := by
  unfold solveReach; rw [exOrd]; decide +kernel

private theorem exReach_true :
    solveReach (roundRat 6) (1/10 : Rat) 61 true exGame = .ok exReach := by
  rw [solveReach_true_eq, exReach_false]; decide +kernel

/-- the hypothesis of `result_complete` is satisfiable, pruning on: the solver returns a result on
the cyclic game with dead successors; both dead successors of state 0 are removed and the two
survivors renormalised to 1/2 each -/
example : ∃ out, solve (roundRat 6) (1/10 : Rat) 61 true exGame = .ok out ∧
    (out.probs, out.itReach, out.itRew, out.nodes) =
      (#[5/16, 21/32, 1, 0, 0, 21/32], 3, 7,
       #[[tr "" (1/2) 1, tr "" (1/2) 5], [tr "" (1/2) 0, tr "" (1/2) 2], [tr "" 1 2], [],
         [tr "x" 0 4], [tr "a" 0 1]]) :=
  exists_ok_of_toOption_map (by unfold solve; rw [exReach_true]; decide +kernel)

/-- ... and pruning off -/
example : ∃ out, solve (roundRat 6) (1/10 : Rat) 61 false exGame = .ok out ∧
    (out.probs, out.itReach, out.itRew) = (#[5/16, 21/32, 1, 0, 0, 21/32], 3, 4) :=
  exists_ok_of_toOption_map (by unfold solve; rw [exReach_false]; decide +kernel)

/-- a well-formed game whose initial state has reachability value 0: state 0 loops or falls into
the sink 2; state 1 is final -/
private def exDead : Game Rat :=
  { rewards := #[1, 0, 0]
    owners := #[.prob, .prob, .prob]
    tl := #[[tr "" (1/2) 0, tr "" (1/2) 2], [tr "" 1 1], [tr "" 1 2]]
    finals := [1] }

private theorem exDeadWF : WFull exDead := by
  unfold WFull
  decide +kernel

private theorem exDeadOrd :
    reverseDfs (exDead.tl.toList.map (fun row => row.map (·.tgt))) exDead.finals = [] :=
  RdfsLemmas.reverseDfs_eq_of 10 (all := [1]) (by decide +kernel) (by decide) (by decide)

/-- both sides of `no_solution_iff` are satisfiable: with pruning on the solver raises 'no
solution' on `exDead`, with pruning off it returns a result -/
example : WFull exDead ∧
    solve (roundRat 6) (1/10 : Rat) 31 true exDead = .error .noSolution ∧
    ∃ r, solveReach (roundRat 6) (1/10 : Rat) 31 false exDead = .ok r ∧ r.probs.getD 0 0 = 0 := by
  have hr : ∃ r, solveReach (roundRat 6) (1/10 : Rat) 31 false exDead = .ok r ∧
      r.probs.getD 0 0 = 0 :=
    exists_ok_of_toOption_map (f := fun (r : ReachOut Rat) => r.probs.getD 0 0)
      (by unfold solveReach; rw [exDeadOrd]; decide +kernel)
  exact ⟨exDeadWF, (no_solution_iff exDeadWF).1.mpr hr, hr⟩

example : ∃ out, solve (roundRat 6) (1/10 : Rat) 31 false exDead = .ok out ∧
    out.probs = #[0, 1, 0] :=
  exists_ok_of_toOption_map (by unfold solve solveReach; rw [exDeadOrd]; decide +kernel)

/-! the hypotheses of `rewards_terminate_of_ranked` are satisfiable: the conditioned node lists of
the acyclic game "0 (Player 1) → 1 (probabilistic) → ½ final state 2, ½ sink 3" after pruning
(the dead branch to 3 is removed, 3 is emptied); ranks 2, 1, 0, 0; state 2 is absorbing -/

private def exO : Array Owner := #[.p1, .prob, .prob, .prob]
private def exR : Array Rat := #[1, 2, 0, 0]
private def exN : Array (List (Tr Rat)) := #[[tr "a" 0 1], [tr "" 1 2], [tr "" 1 2], []]

example : ∃ r, viRew (roundRat 6) exO exR exN #[1/2, 1/2, 1, 0] (1/10 : Rat) 4 1
    { er := exR, ermr := exR, pmr := #[1/2, 1/2, 1, 0] } 0 = .ok r ∧ r.2 ≤ 0 + (2 + 2) := by
  have hnn : ∀ s, 0 ≤ exR.getD s 0 :=
    getD_forall (0 ≤ ·) le_rfl ((forall_mem_iff_getD 0).mp (by decide +kernel))
  refine rewards_terminate_of_ranked (fun s => 2 - s) 2 (by decide) (by decide +kernel) hnn ?_
    (by norm_num) (le_refl _) 1 _ 0 ⟨rfl, rfl, rfl⟩ hnn
  exact fun s _ => getD_forall (fun row : List (Tr Rat) => ∀ t ∈ row, 0 ≤ t.p)
    (fun _ h => absurd h List.not_mem_nil) (by decide +kernel) s

end NonVacuity

end CR.C06
