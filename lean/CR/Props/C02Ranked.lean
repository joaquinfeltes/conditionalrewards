/-
Property C02 on ACYCLIC conditioned games with arbitrary reward ties: exactness of the reported
expected rewards.

"Reported expected rewards are the values of the conditioned game …": on conditioned transition
lists that are acyclic apart from absorbing zero-reward self-loops ("ranked": exactly the
hypothesis of `C06.rewards_terminate_of_ranked`, bundled as `Rank.Ranked`), the reward equations
have exactly one solution that is 0 at the absorbing states, and the reward phase of `solve`
computes it EXACTLY on every state whose rank is below the number of sweeps performed.

Vocabulary:
* `C06.Absorbing o rewards nodes s`: `s` is probabilistic, has reward 0 and its only transition is
  a self-loop of probability 1 (final states and sinks).  There the reward equation reads
  `x[s] = 0 + 1·x[s]`, so every value solves it: uniqueness can only hold modulo the values at the
  absorbing states; the solver keeps their initial value `g.rewards[s] = 0`;
* `Rank.Ranked o rewards nodes rk R`: `rk s ≤ R` for `s < n`; every successor of a non-absorbing
  state `s < n` is `< n` and is absorbing or of rank `< rk s`;
* `Rank.ExactRew o rewards nodes w`: `Brew o rewards nodes w s = w[s]` for all `s < n`, and
  `w[s] = 0` for every absorbing `s < n` (`exactRew_iff`);
* `Brew`: the reward Bellman operator (`CR/Lemmas/RewStep.lean`, `C02.Brew_cases`).

Which exactness statement is TRUE.  The loop `while diff > thr` may stop as soon as a sweep changes
every tracked value by `≤ thr`; with `thr > 0` that can happen before the values have propagated
along the whole chain (the sweep order is the state order, not the topological order), and the
reported rewards are then NOT exact — see the last example (a 4-state chain, `thr = 1/2`: one
sweep, state 0 reports 1/2, its exact expected reward is 3/4).  What holds, for ANY threshold,
rounding function, fuel and pruning flag and with no hypothesis on the game beyond
`solve … = .ok out` and rankedness of `out.nodes`:
* `rew_settled_on_low_rank` / `rew_exact_on_low_rank`: after `out.itRew` sweeps the reported reward
  of every state of rank `< out.itRew` (and of every absorbing state) is exact — offset `+1`:
  `rk s + 1 ≤ out.itRew`;
* `rew_exact_of_ranked`: if `R + 1 ≤ out.itRew` OR the reported vectors are the result of a sweep
  that reported change 0 (always the case when `thr = 0`: `rew_exact_of_ranked_thr_zero`), the
  reported vector is THE exact solution;
* `rew_error_of_ranked`: in general (`thr < 1`, probabilistic rows empty or distributions) the
  reported reward of `s` is within `(rk s + 1)·thr` of the exact one — on ranked games the
  tolerance-to-the-true-value form of C02 does hold, with the factor `rank + 1`.
-/
import CR.Lemmas.Ranked
import CR.Props.C02
import CR.Props.C06

set_option linter.unusedSectionVars false

namespace CR.C02

open CR CR.VI CR.Rew CR.C06 CR.Rank

variable {K : Type} [Field K] [LinearOrder K] [IsStrictOrderedRing K]

section Unique
variable {o : Array Owner} {rewards : Array K} {nodes : Array (List (Tr K))} {rk : Nat → Nat}
  {R : Nat}

/-- `ExactRew` spelled out -/
theorem exactRew_iff (w : Array K) :
    ExactRew o rewards nodes w ↔
      (∀ s < o.size, Brew o rewards nodes w s = w.getD s 0) ∧
        ∀ s < o.size, Absorbing o rewards nodes s → w.getD s 0 = 0 :=
  Iff.rfl

/-- at an absorbing state EVERY value satisfies the reward equation (which is why uniqueness is
stated modulo the values at the absorbing states) -/
theorem brew_absorbing (x : Array K) (s : Nat) (h : Absorbing o rewards nodes s) :
    Brew o rewards nodes x s = x.getD s 0 :=
  Brew_absorbing h x

/-- 1. on ranked node lists two fixed points of `Brew` that agree on the absorbing states are
equal at every state (strong induction on the rank) -/
theorem brew_fixed_point_unique_of_ranked (hrk : Ranked o rewards nodes rk R) (x y : Array K)
    (hx : ∀ s < o.size, Brew o rewards nodes x s = x.getD s 0)
    (hy : ∀ s < o.size, Brew o rewards nodes y s = y.getD s 0)
    (hxy : ∀ s < o.size, Absorbing o rewards nodes s → x.getD s 0 = y.getD s 0) :
    ∀ s < o.size, x.getD s 0 = y.getD s 0 :=
  hrk.op.unique_all x y hx hy hxy

/-- 1'. the local form: two vectors that satisfy the reward equations at the states that are
absorbing or of rank `< k`, and agree on the absorbing states, agree on all those states -/
theorem brew_fixed_point_unique_on_low_rank (hrk : Ranked o rewards nodes rk R) (k : Nat)
    (x y : Array K)
    (hx : ∀ s < o.size, Absorbing o rewards nodes s ∨ rk s < k →
      Brew o rewards nodes x s = x.getD s 0)
    (hy : ∀ s < o.size, Absorbing o rewards nodes s ∨ rk s < k →
      Brew o rewards nodes y s = y.getD s 0)
    (hxy : ∀ s < o.size, Absorbing o rewards nodes s → x.getD s 0 = y.getD s 0) :
    ∀ s < o.size, Absorbing o rewards nodes s ∨ rk s < k → x.getD s 0 = y.getD s 0 :=
  hrk.op.unique k x y hx hy hxy

/-- 1''. any two exact solutions coincide -/
theorem exactRew_unique (hrk : Ranked o rewards nodes rk R) (w w' : Array K)
    (hw : ExactRew o rewards nodes w) (hw' : ExactRew o rewards nodes w') :
    ∀ s < o.size, w.getD s 0 = w'.getD s 0 :=
  brew_fixed_point_unique_of_ranked hrk w w' hw.1 hw'.1
    (fun s hs ha => by rw [hw.2 s hs ha, hw'.2 s hs ha])

/-- 1'''. existence and uniqueness: a ranked node list has an exact solution of its reward
equations (one entry per state), and every exact solution agrees with it at every state -/
theorem exactRew_exists_unique (hrk : Ranked o rewards nodes rk R) :
    ∃ w : Array K, w.size = o.size ∧ ExactRew o rewards nodes w ∧
      ∀ w', ExactRew o rewards nodes w' → ∀ s < o.size, w'.getD s 0 = w.getD s 0 := by
  obtain ⟨w, hsz, hw⟩ := exactRew_exists hrk
  exact ⟨w, hsz, hw, fun w' hw' => exactRew_unique hrk w' w hw' hw⟩

/-- an `ε`-approximate fixed point of `Brew` (probabilistic rows empty or distributions) that
agrees with an exact solution `w` at the absorbing states is within `(rank + 1)·ε` of `w` -/
theorem brew_approx_fixed_point_of_ranked (hrk : Ranked o rewards nodes rk R)
    (hwf : NodesWF o nodes) (x w : Array K) (ε : K) (hε : 0 ≤ ε)
    (hx : ∀ s < o.size, |Brew o rewards nodes x s - x.getD s 0| ≤ ε)
    (hw : ExactRew o rewards nodes w)
    (hxw : ∀ s < o.size, Absorbing o rewards nodes s → x.getD s 0 = 0) :
    ∀ s < o.size, |x.getD s 0 - w.getD s 0| ≤ ((rk s : K) + 1) * ε :=
  hrk.op.error_bound (fun s hs _ => Brew_nonexp (hwf s hs))
    x w ε hε hx hw.1 (fun s hs ha => by rw [hxw s hs ha, hw.2 s hs ha])

end Unique

section Solve
variable {rnd : K → Int} {thr : K} {fuel : Nat} {prune : Bool} {g : Game K} {out : SolveOut K}
  {rk : Nat → Nat} {R : Nat}

/-- 2a. absorbing states of the conditioned game report expected reward 0 (their initial value
`g.rewards[s]`, which no sweep changes) — no rankedness needed -/
theorem rew_absorbing_zero (H : solve rnd thr fuel prune g = .ok out) :
    ∀ s, Absorbing g.owners g.rewards out.nodes s →
      out.rewards.getD s 0 = 0 ∧ g.rewards.getD s 0 = 0 :=
  fun s ha => ⟨solve_er_inv H (fun x => x.getD s 0 = 0) ha.2.1 fun x s' _ hx => by
    rw [getD_setIfInBounds]
    split_ifs with hc
    · rw [hc.1, Brew_absorbing ha x]
      exact hx
    · exact hx, ha.2.1⟩

/-- 2b. **settled states**: on ranked conditioned lists, after `out.itRew` sweeps the reported
expected rewards satisfy the reward equation EXACTLY at every state that is absorbing or of rank
`< out.itRew` (any threshold, rounding function, fuel, pruning flag) -/
theorem rew_settled_on_low_rank (H : solve rnd thr fuel prune g = .ok out)
    (hrk : Ranked g.owners g.rewards out.nodes rk R) :
    ∀ s < g.owners.size, Absorbing g.owners g.rewards out.nodes s ∨ rk s < out.itRew →
      Brew g.owners g.rewards out.nodes out.rewards s = out.rewards.getD s 0 := by
  obtain ⟨m, hm, _, hst⟩ := viRew_low hrk (init_sized H) (stab_low_zero rk _) (rew_result H).2.2
  have hm : out.itRew = m := hm.trans (Nat.zero_add m)
  rw [Nat.zero_add, ← hm] at hst
  exact fun s hs hlow => Term.stab_fixed hst s hs hlow

/-- 2c. **exactness on low ranks**: the reported expected reward of a state of rank `r` is the
exact one as soon as `r + 1 ≤ out.itRew` (and that of an absorbing state always is).  The exact
solution `w` exists and is unique (`exactRew_exists_unique`). -/
theorem rew_exact_on_low_rank (H : solve rnd thr fuel prune g = .ok out)
    (hrk : Ranked g.owners g.rewards out.nodes rk R) (w : Array K)
    (hw : ExactRew g.owners g.rewards out.nodes w) :
    ∀ s < g.owners.size, Absorbing g.owners g.rewards out.nodes s ∨ rk s + 1 ≤ out.itRew →
      out.rewards.getD s 0 = w.getD s 0 :=
  hrk.op.unique out.itRew out.rewards w (rew_settled_on_low_rank H hrk) (fun s hs _ => hw.1 s hs)
    (fun s hs ha => by rw [(rew_absorbing_zero H s ha).1, hw.2 s hs ha])

/-- 2. **exactness**: if the reward loop performed at least `R + 1` sweeps (`R` the maximal rank),
OR the reported vectors are the result of a sweep that reported change 0, the reported expected
rewards are an exact solution of the reward equations of the conditioned game — hence THE exact
solution: they coincide with every exact solution at every state -/
theorem rew_exact_of_ranked (H : solve rnd thr fuel prune g = .ok out)
    (hrk : Ranked g.owners g.rewards out.nodes rk R)
    (hconv : R + 1 ≤ out.itRew ∨
      ∃ v : RewVecs K, sweepRew rnd g.owners g.rewards out.nodes out.probs v =
        .ok ({ er := out.rewards, ermr := out.rewMinReach, pmr := out.probMinRew }, 0)) :
    ExactRew g.owners g.rewards out.nodes out.rewards ∧
      ∀ w, ExactRew g.owners g.rewards out.nodes w →
        ∀ s < g.owners.size, out.rewards.getD s 0 = w.getD s 0 := by
  have hex : ExactRew g.owners g.rewards out.nodes out.rewards := by
    refine ⟨?_, fun s _ ha => (rew_absorbing_zero H s ha).1⟩
    rcases hconv with hR | ⟨v, hsw⟩
    · exact fun s hs => rew_settled_on_low_rank H hrk s hs (hrk.low_all hR s hs)
    · exact rew_fixed_point_of_zero_diff H v hsw
  exact ⟨hex, fun w hw => exactRew_unique hrk out.rewards w hex hw⟩

/-- 2 (i). the zero-change form (cf. `rew_fixed_point_of_zero_diff`; no hypothesis on the
probabilities is needed here) -/
theorem rew_exact_of_ranked_zero_diff (H : solve rnd thr fuel prune g = .ok out)
    (hrk : Ranked g.owners g.rewards out.nodes rk R) (v : RewVecs K)
    (hsw : sweepRew rnd g.owners g.rewards out.nodes out.probs v =
      .ok ({ er := out.rewards, ermr := out.rewMinReach, pmr := out.probMinRew }, 0)) :
    ExactRew g.owners g.rewards out.nodes out.rewards ∧
      ∀ w, ExactRew g.owners g.rewards out.nodes w →
        ∀ s < g.owners.size, out.rewards.getD s 0 = w.getD s 0 :=
  rew_exact_of_ranked H hrk (Or.inr ⟨v, hsw⟩)

/-- 2 (i'). with threshold 0 every `.ok` run on ranked conditioned lists reports the exact
expected rewards -/
theorem rew_exact_of_ranked_thr_zero (hthr : thr = 0) (H : solve rnd thr fuel prune g = .ok out)
    (hrk : Ranked g.owners g.rewards out.nodes rk R) :
    ExactRew g.owners g.rewards out.nodes out.rewards ∧
      ∀ w, ExactRew g.owners g.rewards out.nodes w →
        ∀ s < g.owners.size, out.rewards.getD s 0 = w.getD s 0 :=
  rew_exact_of_ranked H hrk (Or.inr (solve_thr_zero_sweep H hthr))

/-- 2 (ii). the iteration-count form -/
theorem rew_exact_of_ranked_iters (H : solve rnd thr fuel prune g = .ok out)
    (hrk : Ranked g.owners g.rewards out.nodes rk R) (hR : R + 1 ≤ out.itRew) :
    ExactRew g.owners g.rewards out.nodes out.rewards ∧
      ∀ w, ExactRew g.owners g.rewards out.nodes w →
        ∀ s < g.owners.size, out.rewards.getD s 0 = w.getD s 0 :=
  rew_exact_of_ranked H hrk (Or.inl hR)

/-- 2 (iii). **tolerance to the true value on ranked games**: if the loop ran (`thr < 1`) and the
conditioned rows of the probabilistic states are empty or distributions, the reported expected
reward of every state `s` is within `(rk s + 1)·thr` of the exact one, however early the loop
stopped -/
theorem rew_error_of_ranked (hwf : NodesWF g.owners out.nodes) (hthr : thr < 1)
    (H : solve rnd thr fuel prune g = .ok out) (hrk : Ranked g.owners g.rewards out.nodes rk R)
    (w : Array K) (hw : ExactRew g.owners g.rewards out.nodes w) :
    ∀ s < g.owners.size, |out.rewards.getD s 0 - w.getD s 0| ≤ ((rk s : K) + 1) * thr := by
  obtain ⟨v, d, _, hsw, hd⟩ := solve_last_sweep H hthr
  exact brew_approx_fixed_point_of_ranked hrk hwf out.rewards w thr
    ((sweepRew_diff_nonneg hsw).trans hd)
    (rew_bellman_consistency hwf hthr H) hw (fun s _ ha => (rew_absorbing_zero H s ha).1)

/-- 2, end to end with C06: on a well-formed game whose conditioned lists are ranked, with
threshold 0 and `fuel ≥ R + 2`, once the reachability phase has returned a result the solver
returns a result whose expected rewards are the exact solution of the conditioned game's reward
equations -/
theorem solve_exact_of_ranked (h : WFull g) {ro : ReachOut K} {nodes : Array (List (Tr K))}
    (hthr : thr = 0) (hro : solveReach rnd thr fuel prune g = .ok ro)
    (hcond : condition prune g ro.strat ro.probs = .ok nodes)
    (hrk : Ranked g.owners g.rewards nodes rk R) (hfuel : R + 2 ≤ fuel) :
    ∃ out, solve rnd thr fuel prune g = .ok out ∧ out.nodes = nodes ∧ out.itRew ≤ R + 2 ∧
      ExactRew g.owners g.rewards nodes out.rewards ∧
      ∀ w, ExactRew g.owners g.rewards nodes w →
        ∀ s < g.owners.size, out.rewards.getD s 0 = w.getD s 0 := by
  obtain ⟨out, H, hn, hit⟩ := solve_terminates_of_ranked h hro hcond rk R hrk.bound
    (fun s hs hna t ht => (hrk.step s hs hna t ht).2) (le_of_eq hthr.symm) hfuel
  subst hn
  exact ⟨out, H, rfl, hit, rew_exact_of_ranked_thr_zero hthr H hrk⟩

end Solve

section NonVacuity
open CR.Examples CR.Rew.Examples CR.Rank.Examples

/-- the conditioned lists of the 7-state game `g7` are ranked (`0 → 1 → 3 → 5`, state 5 absorbing,
maximal rank 2) -/
example : Ranked g7.owners g7.rewards g7nodes rk7 2 := g7_ranked

/-- state 5 of `g7nodes` is absorbing -/
example : Absorbing g7.owners g7.rewards g7nodes 5 := ⟨rfl, rfl, tr "" 1 5, rfl, rfl, rfl⟩

/-- `rew_exact_of_ranked` instantiated through its FIRST alternative on the run of `g7` (pruning
on, threshold 10⁻⁶): 3 = R + 1 sweeps; the reported rewards `#[2, 2, 0, 2, 0, 0, 0]` are the exact
solution -/
example : ∃ out, solve (roundRat 6) thr 1000 true g7 = .ok out ∧
    out.rewards = #[2, 2, 0, 2, 0, 0, 0] ∧ out.itRew = 3 ∧
    ExactRew g7.owners g7.rewards out.nodes out.rewards ∧
    ∀ w, ExactRew g7.owners g7.rewards out.nodes w →
      ∀ s < g7.owners.size, out.rewards.getD s 0 = w.getD s 0 := by
  have hrk : Ranked g7.owners g7.rewards g7out_true.nodes rk7 2 := g7_ranked
  exact ⟨_, g7_solve_true, rfl, rfl, rew_exact_of_ranked g7_solve_true hrk (Or.inl (by decide))⟩

/-- … and through its SECOND alternative: the reported vectors are reproduced by a sweep with
change 0 (`g7_sweep`) -/
example : ∃ out, solve (roundRat 6) thr 1000 true g7 = .ok out ∧
    ExactRew g7.owners g7.rewards out.nodes out.rewards := by
  have hrk : Ranked g7.owners g7.rewards g7out_true.nodes rk7 2 := g7_ranked
  exact ⟨_, g7_solve_true, (rew_exact_of_ranked_zero_diff g7_solve_true hrk g7vecs g7_sweep).1⟩

/-- the run of the 6-state game `g6` (a Player-2 state, ties at both player states): ranked,
3 = R + 1 sweeps, exact rewards `#[1, 0, 0, 1, 0, 0]` -/
example : ∃ out, solve (roundRat 6) thr 1000 true g6 = .ok out ∧
    out.rewards = #[1, 0, 0, 1, 0, 0] ∧
    ExactRew g6.owners g6.rewards out.nodes out.rewards := by
  have hrk : Ranked g6.owners g6.rewards g6out_true.nodes rk6 2 := g6_ranked
  exact ⟨_, g6_solve_true, rfl, (rew_exact_of_ranked_iters g6_solve_true hrk (by decide)).1⟩

/-- the hypotheses of `rew_error_of_ranked` hold together on the run of `g7` -/
example : ∃ out, solve (roundRat 6) thr 1000 true g7 = .ok out ∧
    ∀ w, ExactRew g7.owners g7.rewards out.nodes w →
      ∀ s < g7.owners.size, |out.rewards.getD s 0 - w.getD s 0| ≤ ((rk7 s : Rat) + 1) * thr := by
  have hrk : Ranked g7.owners g7.rewards g7out_true.nodes rk7 2 := g7_ranked
  exact ⟨_, g7_solve_true, fun w hw =>
    rew_error_of_ranked (out := g7out_true) g7_wf (by decide +kernel) g7_solve_true hrk w hw⟩

/-- existence and uniqueness instantiated -/
example : ∃ w : Array Rat, w.size = g7.owners.size ∧ ExactRew g7.owners g7.rewards g7nodes w ∧
    ∀ w', ExactRew g7.owners g7.rewards g7nodes w' →
      ∀ s < g7.owners.size, w'.getD s 0 = w.getD s 0 :=
  exactRew_exists_unique g7_ranked

/-- WHY exactness needs `R + 1 ≤ itRew` or a zero-change sweep: a ranked chain `0 → 1 → 2 → 3`
(rewards 1/4, 1/4, 1/4, 0; state 3 absorbing; maximal rank 3) with threshold 1/2.  The reward loop
stops after ONE sweep (states are swept in index order, so state 0 is updated before its
successor); the states of rank `< 1` (state 2) and, here, state 1 satisfy their equations, state 0
reports 1/2 and violates its equation: its exact expected reward is 3/4. -/
example : Ranked chainO chainR chainN (fun s => 3 - s) 3 ∧
    viRew (roundRat 6) chainO chainR chainN #[1, 1, 1, 1] (1/2 : Rat) 10 1
      { er := chainR, ermr := chainR, pmr := #[1, 1, 1, 1] } 0 =
      .ok ({ er := #[1/2, 1/2, 1/4, 0], ermr := #[1/2, 1/2, 1/4, 0], pmr := #[1, 1, 1, 1] }, 1) ∧
    Brew chainO chainR chainN #[1/2, 1/2, 1/4, 0] 0 = 3/4 ∧
    ExactRew chainO chainR chainN #[3/4, 1/2, 1/4, 0] := by
  exact ⟨chain_ranked, by decide +kernel, by decide +kernel,
    (exactRew_iff _).mpr (by decide +kernel)⟩

end NonVacuity

end CR.C02
