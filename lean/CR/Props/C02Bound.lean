/-
C02, one-sided bound: the reported expected rewards never exceed the value of the conditioned game.

`Brew` is the Bellman operator of the total-reward game on the conditioned transition lists
(`out.nodes`): own reward plus the max (Player 1) / min (Player 2) / expectation (probabilistic) of
the successor values; 0 for a state whose list was emptied.  It is monotone.  The reward loop
starts from the reward vector itself and only ever replaces an entry by `Brew` of the current
vector, so every iterate stays below every pre-fixed point of `Brew` that dominates the reward
vector — in particular below the least one, which (when it exists, i.e. when the conditioned game
is stopping) is the max–min expected total reward.  With pruning off, and a rounding function that
maps non-negative numbers to non-negative integers (Python's `round` does), no list is emptied and the
domination hypothesis is automatic.  For an ARBITRARY rounding function that is false:
`noprune_bound_needs_rnd` (a rounding function that is constantly −1 empties a Player-1 row).

This is the counterpart of `C01.reach_le_prefixed` / `C01.reach_le_value` for the reward phase; it
holds for every threshold, every fuel, every rounding function, cyclic games included.  (The other
direction is the listed residual-stop finding.)

Helper lemmas: `CR/Lemmas/RewBound.lean`.
-/
import CR.Lemmas.RewBound
import CR.Props.C02
import CR.Props.C06

namespace CR.C02

open CR CR.VI CR.Rew

variable {K : Type} [Field K] [LinearOrder K] [IsStrictOrderedRing K]

/-- a pre-fixed point, in `[0,∞)`, of the reward operator on the transition lists `nodes` -/
def RewPreFixed (o : Array Owner) (rewards : Array K) (nodes : Array (List (Tr K))) (y : Array K) : Prop :=
  y.size = o.size ∧ (∀ s < o.size, 0 ≤ y.getD s 0) ∧ ∀ s < o.size, Brew o rewards nodes y s ≤ y.getD s 0

/-- `w` is the least pre-fixed point of the reward operator among those that dominate `r` -/
def IsLeastRewPreFixed (o : Array Owner) (rewards : Array K) (nodes : Array (List (Tr K))) (w : Array K) : Prop :=
  RewPreFixed o rewards nodes w ∧ (∀ s < o.size, rewards.getD s 0 ≤ w.getD s 0) ∧
    ∀ y, RewPreFixed o rewards nodes y → (∀ s < o.size, rewards.getD s 0 ≤ y.getD s 0) →
      ∀ s < o.size, w.getD s 0 ≤ y.getD s 0

section
variable {rnd : K → Int} {thr : K} {fuel : Nat} {prune : Bool} {g : Game K} {out : SolveOut K}

/-- `Brew` is monotone in the value vector (probabilities of the rows of probabilistic states
non-negative) -/
theorem brew_mono (o : Array Owner) (rewards : Array K) (nodes : Array (List (Tr K)))
    (hp : ∀ s < o.size, o.getD s .prob = .prob → ∀ t ∈ nodes.getD s [], 0 ≤ t.p)
    (x y : Array K) (hxy : ∀ j, x.getD j 0 ≤ y.getD j 0) (s : Nat) (hs : s < o.size) :
    Brew o rewards nodes x s ≤ Brew o rewards nodes y s :=
  Brew_mono (hp s hs) x y fun _ _ => hxy _

/-- **upper bound, both pruning modes.**  On `.ok`, the reported expected rewards are below every
pre-fixed point of the reward operator of the conditioned game that dominates the reward vector. -/
theorem rew_le_prefixed (hwf : NodesWF g.owners out.nodes) (H : solve rnd thr fuel prune g = .ok out)
    (y : Array K) (hy : RewPreFixed g.owners g.rewards out.nodes y)
    (hyr : ∀ s < g.owners.size, g.rewards.getD s 0 ≤ y.getD s 0) :
    ∀ s < g.owners.size, out.rewards.getD s 0 ≤ y.getD s 0 := fun s _ =>
  RewBound.solve_upper hwf H y hy.2.2
    (getD_forall₂ (· ≤ ·) le_rfl (init_sized H).1 hy.1 hyr) s

/-- in particular below the least such pre-fixed point -/
theorem rew_le_least (hwf : NodesWF g.owners out.nodes) (H : solve rnd thr fuel prune g = .ok out)
    (w : Array K) (hw : IsLeastRewPreFixed g.owners g.rewards out.nodes w) :
    ∀ s < g.owners.size, out.rewards.getD s 0 ≤ w.getD s 0 :=
  rew_le_prefixed hwf H w hw.1 hw.2.1

/-! ### pruning off

`hrnd`: the rounding function maps non-negative numbers to non-negative integers (true of
`roundRat d` and of Python's `round`).  Without it a Player-1 state whose rounded successor
reachability values are all negative gets the empty strategy and its row is emptied even with
pruning off.  More generally both conclusions hold, in either pruning mode, whenever no conditioned
row is empty: `RewBound.upper_of_rows_ne_nil`, `RewBound.subsol_of_rows_ne_nil`. -/

/-- **pruning off, well-formed game: no domination hypothesis.**  No transition list is emptied, so
every pre-fixed point in `[0,∞)` dominates the reward vector; the reported rewards are below ALL of
them.  (`hrnd` cannot be dropped: `noprune_bound_needs_rnd`.) -/
theorem rew_le_prefixed_noprune (h : C06.WFull g) (hrnd : ∀ x : K, 0 ≤ x → 0 ≤ rnd x)
    (H : solve rnd thr fuel false g = .ok out)
    (y : Array K) (hy : RewPreFixed g.owners g.rewards out.nodes y) :
    ∀ s < g.owners.size, out.rewards.getD s 0 ≤ y.getD s 0 :=
  fun s _ => RewBound.upper_of_rows_ne_nil (nodesWF_of_game h.probRows H) H
    (RewBound.noprune_row_ne_nil h hrnd H) y hy.1 hy.2.1 hy.2.2 s

/-- pruning off, well-formed game: every state's reported reward is at least its own reward, and the
reported vector is a SUB-solution, `out.rewards s ≤ Brew out.rewards s` (the iterates increase) -/
theorem rew_subsolution_noprune (h : C06.WFull g) (hrnd : ∀ x : K, 0 ≤ x → 0 ≤ rnd x)
    (H : solve rnd thr fuel false g = .ok out) :
    (∀ s < g.owners.size, g.rewards.getD s 0 ≤ out.rewards.getD s 0) ∧
    ∀ s < g.owners.size, out.rewards.getD s 0 ≤ Brew g.owners g.rewards out.nodes out.rewards s :=
  have := RewBound.subsol_of_rows_ne_nil (nodesWF_of_game h.probRows H) H
    (RewBound.noprune_row_ne_nil h hrnd H)
  ⟨fun s _ => this.1 s, this.2⟩

end

section NonVacuity
open CR.Examples CR.Rew.Examples

/-- all hypotheses of `rew_le_prefixed` hold together on the concrete 7-state run (pruning on),
with `y` the reported vector itself -/
example : ∃ out, solve (roundRat 6) thr 1000 true g7 = .ok out ∧
    RewPreFixed g7.owners g7.rewards out.nodes #[2, 2, 0, 2, 0, 0, 0] ∧
    ∀ s < g7.owners.size, out.rewards.getD s 0 ≤ (#[2, 2, 0, 2, 0, 0, 0] : Array Rat).getD s 0 := by
  have hy : RewPreFixed g7.owners g7.rewards g7nodes #[2, 2, 0, 2, 0, 0, 0] := by
    unfold RewPreFixed; decide +kernel
  exact ⟨_, g7_solve_true, hy, rew_le_prefixed g7_wf g7_solve_true _ hy (by decide +kernel)⟩

end NonVacuity

section Counterexample
open CR.Examples

/-- one Player-1 state with a self-loop, final, reward 5 -/
def gcNeg : Game Rat where
  rewards := #[5]
  owners := #[.p1]
  tl := #[[tr "a" 0 0]]
  finals := [0]

theorem gcNeg_wfull : C06.WFull gcNeg := by
  unfold C06.WFull
  decide +kernel

private theorem gcNeg_ord :
    reverseDfs (gcNeg.tl.toList.map (fun row => row.map (·.tgt))) gcNeg.finals = [] :=
  RdfsLemmas.reverseDfs_eq_of 10 (all := [0]) (by decide +kernel) (by decide) (by decide)

/-- with the rounding function constantly −1 and `thr = 2`: a well-formed game, pruning off, a
pre-fixed point `y = #[0]` of the conditioned reward operator, and a reported reward 5 above it -/
theorem noprune_bound_needs_rnd : ∃ (out : SolveOut Rat) (y : Array Rat), C06.WFull gcNeg ∧
    solve (fun _ => -1) 2 1000 false gcNeg = .ok out ∧
    RewPreFixed gcNeg.owners gcNeg.rewards out.nodes y ∧
    ¬ (∀ s < gcNeg.owners.size, out.rewards.getD s 0 ≤ y.getD s 0) := by
  have run2 : ∃ out, solve (fun _ => -1) 2 1000 false gcNeg = .ok out ∧
      (out.rewards, out.nodes) = (#[5], #[[]]) :=
    exists_ok_of_toOption_map (by unfold solve solveReach; rw [gcNeg_ord]; decide +kernel)
  obtain ⟨out, H, ho⟩ := run2
  simp only [Prod.mk.injEq] at ho
  refine ⟨out, #[0], gcNeg_wfull, H, ⟨rfl, ?_, ?_⟩, fun h => ?_⟩
  · decide +kernel
  · rw [ho.2]; decide +kernel
  · have := h 0 (by decide)
    rw [ho.1] at this; revert this; decide +kernel

end Counterexample

end CR.C02
