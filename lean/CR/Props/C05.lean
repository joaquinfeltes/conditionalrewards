/-
Property C05 — final (reward) strategies.

"For every game and every Player 1 state, the reported final strategy is a subset of that
state's reported reachability strategy ... For states reachable from the initial state it lists
exactly the permitted actions whose successor has the largest conditioned expected reward (for
Player 2 states: all actions with the smallest), in transition order, and probabilistic states
have none."

`out.nodes` are the conditioned transition lists (the permitted actions) on which the reward
phase ran; `out.rewards` the reported conditioned expected rewards.  All theorems are generic in
the number type and the rounding function, hold in both pruning modes and need no
well-formedness hypothesis on the game beyond `solve` having returned `.ok`.
-/
import CR.Lemmas.Prune
import CR.Lemmas.Runs

namespace CR.C05
open CR List

section
variable {α : Type} [Add α] [Sub α] [Mul α] [Div α] [Neg α] [LT α] [DecidableLT α]
  [LE α] [DecidableLE α] [BEq α] [OfNat α 0] [OfNat α 1]

/-- C05.1 on the lists themselves: the permitted actions of a Player-1 state are the
reachability-optimal ones (minus, when pruning, those leading to a state of reachability value
`== 0`), and the final strategy is a sub-list of them. -/
theorem final_sublist_permitted {rnd : α → Int} {thr : α} {fuel : Nat} {prune : Bool}
    {g : Game α} {out : SolveOut α} (h : solve rnd thr fuel prune g = .ok out) :
    ∀ s, g.owners.getD s .prob = .p1 →
      (out.nodes.getD s []).Sublist
        ((g.tl.getD s []).filter
          (fun t => ((out.reachStrat.getD s none).getD []).contains t.act)) ∧
      ((out.finalStrat.getD s none).getD []).Sublist ((out.nodes.getD s []).map (·.act)) := by
  obtain ⟨ro, _, hc, _, _, hreach, _, _⟩ := solve_eq_ok.mp h
  intro s hp
  refine ⟨?_, ?_⟩
  · rw [hreach, condition_getD_p1 hc s hp]
    cases prune
    · exact List.Sublist.refl _
    · exact List.filter_sublist
  · rw [finalStrat_p1 h hp]
    exact bestStrat_sublist rnd out.rewards _

/-- C05.1 — at every Player-1 state every action of the final strategy is an action of the
reachability strategy. -/
theorem final_subset_reach {rnd : α → Int} {thr : α} {fuel : Nat} {prune : Bool} {g : Game α}
    {out : SolveOut α} (h : solve rnd thr fuel prune g = .ok out) :
    ∀ s, g.owners.getD s .prob = .p1 →
      ∀ a ∈ (out.finalStrat.getD s none).getD [], a ∈ (out.reachStrat.getD s none).getD [] := by
  intro s hp a ha
  obtain ⟨hnodes, hfin⟩ := final_sublist_permitted h s hp
  obtain ⟨t, ht, rfl⟩ := List.mem_map.1 (hfin.subset ha)
  exact List.contains_iff_mem.1 (List.mem_filter.1 (hnodes.subset ht)).2

/-- C05.2 — shape of the final strategy array: one entry per state; `none` exactly for the
probabilistic states; `some []` for a player state without permitted transitions; always a
sub-list (transition order) of the permitted actions. -/
theorem final_shape {rnd : α → Int} {thr : α} {fuel : Nat} {prune : Bool} {g : Game α}
    {out : SolveOut α} (h : solve rnd thr fuel prune g = .ok out) :
    out.finalStrat.size = g.owners.size ∧
    (∀ s, out.finalStrat.getD s none = none ↔ g.owners.getD s .prob = .prob) ∧
    (∀ s, g.owners.getD s .prob ≠ .prob → out.nodes.getD s [] = [] →
      out.finalStrat.getD s none = some []) ∧
    (∀ s, g.owners.getD s .prob ≠ .prob →
      ∃ l, out.finalStrat.getD s none = some l ∧
        l.Sublist ((out.nodes.getD s []).map (·.act))) := by
  obtain ⟨ro, _, _, _, hfin, _, _, _⟩ := solve_eq_ok.mp h
  rw [hfin, rewardStrategies_eq]
  refine ⟨stratArray_size _ _ _, stratArray_getD_eq_none_iff _ _ _, fun s hs he => ?_, fun s hs =>
    stratArray_getD_of_ne_prob _ _ hs (·.Sublist ((out.nodes.getD s []).map (·.act)))
      (bestStrat_sublist rnd out.rewards _) (worstStratRew_sublist rnd out.rewards _)⟩
  rw [stratArray_getD, he]
  cases hq : g.owners.getD s .prob with
  | prob => exact absurd hq hs
  | p1 => rfl
  | p2 => rfl

/-- C05.3 — the final strategy in terms of the reported rewards.
Player 1: the permitted actions (transition order) whose successor's rounded reported reward
equals the maximum (clamped below by 0).
Player 2 with a non-empty permitted list `t0 :: rest`: the permitted actions whose successor's
rounded reported reward equals the minimum over the list (started at the first successor: no
clamp; the list is non-empty). -/
theorem final_argmax_reported {rnd : α → Int} {thr : α} {fuel : Nat} {prune : Bool}
    {g : Game α} {out : SolveOut α} (h : solve rnd thr fuel prune g = .ok out) :
    (∀ s, g.owners.getD s .prob = .p1 →
      out.finalStrat.getD s none = some
        (((out.nodes.getD s []).filter (fun t => rnd (out.rewards.getD t.tgt 0) ==
            (out.nodes.getD s []).foldl
              (fun m t => max m (rnd (out.rewards.getD t.tgt 0))) 0)).map (·.act))) ∧
    (∀ s t0 rest, g.owners.getD s .prob = .p2 → out.nodes.getD s [] = t0 :: rest →
      out.finalStrat.getD s none = some
        (((t0 :: rest).filter (fun t => rnd (out.rewards.getD t.tgt 0) ==
            (t0 :: rest).foldl (fun m t => min m (rnd (out.rewards.getD t.tgt 0)))
              (rnd (out.rewards.getD t0.tgt 0)))).map (·.act)) ∧
      out.finalStrat.getD s none ≠ some []) := by
  refine ⟨?_, ?_⟩
  · intro s hp
    rw [finalStrat_p1 h hp]
    exact congrArg some (bestStrat_eq rnd out.rewards _)
  · intro s t0 rest hp hrow
    rw [finalStrat_p2 h hp, hrow]
    refine ⟨congrArg some (worstStratRew_cons rnd out.rewards t0 rest), ?_⟩
    intro hcontra
    exact worstStratRew_ne_nil rnd out.rewards (t0 :: rest) (List.cons_ne_nil _ _)
      (Option.some.inj hcontra)

end

/-! ### non-vacuity: concrete runs of `solve` over `Rat`

The runs are `Examples.g7_solve_true`, `g7_solve_false`, `g6_solve_true` (evaluated in the
kernel there). -/

open Examples

/-- 7-state game, pruning on -/
example : ∃ out, solve (roundRat 6) thr 1000 true g7 = .ok out ∧
    (out.finalStrat, out.reachStrat, out.rewards, out.nodes.map (·.map (·.act))) =
      (#[some ["alfa"], none, none, some ["gamma"], none, none, none],
       #[some ["alfa"], none, none, some ["gamma"], none, none, none],
       #[2, 2, 0, 2, 0, 0, 0],
       #[["alfa"], [""], [], ["gamma"], [], [""], []]) :=
  ⟨_, g7_solve_true, by decide +kernel⟩

/-- 7-state game, pruning off -/
example : ∃ out, solve (roundRat 6) thr 1000 false g7 = .ok out ∧
    (out.finalStrat, out.reachStrat, out.rewards, out.nodes.map (·.map (·.act))) =
      (#[some ["alfa"], none, none, some ["gamma"], none, none, none],
       #[some ["alfa"], none, none, some ["gamma"], none, none, none],
       #[3/2, 3/2, 0, 2, 0, 0, 0],
       #[["alfa"], ["", ""], ["", ""], ["gamma"], [""], [""], [""]]) :=
  ⟨_, g7_solve_false, by decide +kernel⟩

/-- 6-state game, pruning on: at the Player-1 state 0 the final strategy `["c"]` is a proper
subset of the reachability strategy `["a","b","c"]`; at the Player-2 state 1 the final strategy
`["x","y"]` (all permitted actions have the smallest reward) is NOT a subset of its reachability
strategy `["y"]` — the subset claim is about Player 1 only. -/
example : ∃ out, solve (roundRat 6) thr 1000 true g6 = .ok out ∧
    (out.finalStrat, out.reachStrat, out.rewards, out.nodes.map (·.map (·.act))) =
      (#[some ["c"], some ["x", "y"], none, none, none, none],
       #[some ["a", "b", "c"], some ["y"], none, none, none, none],
       #[1, 0, 0, 1, 0, 0],
       #[["a", "b", "c"], ["x", "y"], [""], [""], [""], []]) :=
  ⟨_, g6_solve_true, by decide +kernel⟩

end CR.C05
