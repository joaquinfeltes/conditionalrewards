/-
C08, packaged as a bisimulation statement.

Both the specification (`CR/Spec/Roborta.lean`) and the generated game (`CR/Model/Gen.lean`) are
viewed as labelled transition systems with observations:

* an `LTS σ α` gives every state an observation `(owner, reward, is-final)` and an ORDERED list
  of successors, each labelled `(action name, probability)`;
* `Bisim A B R` is the strong, order-preserving notion: `R`-related states have equal
  observations, and their successor lists have the same length with position-wise equal labels
  and `R`-related targets (`List.Forall₂`).  This implies ordinary strong bisimilarity
  (`Bisim.forth`, `Bisim.back`) and, for chance states, probabilistic bisimilarity (the two
  distributions are the same list of weights over position-wise related targets).

The vocabulary (`LTS`, `LTS.Step`, `Bisim`, `specLTS`, `genLTS`, `EncRel`) and the generic
consequences of `Bisim` are in `CR/Lemmas/Bisim.lean`.

`generated_bisimilar`: for `BoardOK` boards, `R s n := Valid s ∧ n = enc s` is such a
bisimulation between the specification and the generated game and relates `light 0 0` to `0`.
`reachable_image`: the states of the generated game reachable from `0` are exactly the `enc`
images of the (valid) situations reachable from `light 0 0`.
-/
import CR.Props.C08
import CR.Lemmas.Bisim

namespace CR.C08

open CR CR.Gen CR.Roborta

section
variable {α : Type} [Sub α] [OfNat α 0] [OfNat α 1]

/-- **C08 as a bisimulation.**  For every `BoardOK` board, variant and parameters,
`R s n := Valid s ∧ n = enc s` is a strong order-preserving bisimulation between the
specification and the generated game, and it relates the initial situation `light 0 0` to
state `0`. -/
theorem generated_bisimilar (v : Variant) (L W : Nat) (b : Board) (hb : BoardOK L W b)
    (q : Params α) :
    Bisim (specLTS v L W b q) (genLTS (genGame v L W b q)) (EncRel v L W b) ∧
    EncRel v L W b (.light 0 0) 0 := by
  refine ⟨?_, (enc_init v L W b hb).2, (enc_init v L W b hb).1.symm⟩
  rintro s n ⟨hs, rfl⟩
  obtain ⟨_, htl, hown, hrew, hfin⟩ := gen_bisim_step v L W b hb q s hs
  refine ⟨?_, ?_⟩
  · show (owner s, reward b s, s = RState.win) = (_, _, _)
    rw [hown, hrew, propext hfin]
  · show List.Forall₂ _ ((rules v L W b q s).map _) (((genGame v L W b q).tl.getD _ []).map _)
    rw [htl, List.map_map, List.forall₂_map_left_iff, List.forall₂_map_right_iff,
      List.forall₂_same]
    intro x hx
    exact ⟨rfl, valid_closed v L W b hb q s hs x hx, rfl⟩

/-- **Reachable part.**  A state of the generated game is reachable from `0` iff it is the
number of a situation reachable from `light 0 0` under the rules; every such situation is
valid. -/
theorem reachable_image (v : Variant) (L W : Nat) (b : Board) (hb : BoardOK L W b)
    (q : Params α) (n : Nat) :
    Relation.ReflTransGen (genLTS (genGame v L W b q)).Step 0 n ↔
      ∃ s, Relation.ReflTransGen (specLTS v L W b q).Step (.light 0 0) s ∧
        Valid v L W b s ∧ n = enc v L W s := by
  obtain ⟨hbis, h0⟩ := generated_bisimilar v L W b hb q
  constructor
  · intro hn
    exact hbis.reach_right h0 hn
  · rintro ⟨s, hs, _, rfl⟩
    obtain ⟨n, hn, _, rfl⟩ := hbis.reach_left h0 hs
    exact hn

/-- every situation reachable from `light 0 0` is valid -/
theorem reachable_valid (v : Variant) (L W : Nat) (b : Board) (hb : BoardOK L W b)
    (q : Params α) (s : RState)
    (hs : Relation.ReflTransGen (specLTS v L W b q).Step (.light 0 0) s) : Valid v L W b s := by
  obtain ⟨hbis, h0⟩ := generated_bisimilar v L W b hb q
  obtain ⟨_, _, hv, _⟩ := hbis.reach_left h0 hs
  exact hv

/-- on the reachable part the correspondence is one-to-one: two reachable situations with the
same number are equal -/
theorem reachable_enc_injective (v : Variant) (L W : Nat) (b : Board) (hb : BoardOK L W b)
    (q : Params α) (s s' : RState)
    (hs : Relation.ReflTransGen (specLTS v L W b q).Step (.light 0 0) s)
    (hs' : Relation.ReflTransGen (specLTS v L W b q).Step (.light 0 0) s')
    (h : enc v L W s = enc v L W s') : s = s' :=
  enc_injective v L W b s s' (reachable_valid v L W b hb q s hs)
    (reachable_valid v L W b hb q s' hs') h

end

/-! ### non-vacuity (2×1 board of `CR/Props/C08.lean`, game A, over `Rat`) -/

/-- the two systems on the one-column board: the light's first move -/
example : (specLTS .A 2 1 b21 q0).next (.light 0 0) =
    [(("Green", 0), .down 0 0), (("Yellow", 0), .lr 0 0)] := by rfl
example : (genLTS (genGame .A 2 1 b21 q0)).next 0 = [(("Green", 0), 2), (("Yellow", 0), 4)] := by
  rfl

/-- state 6 (`land 0 0`, a loose tile) is reachable from 0 in the generated game: 0 → 4 → 6 -/
theorem reach_0_6 : Relation.ReflTransGen (genLTS (genGame .A 2 1 b21 q0)).Step 0 6 :=
  .tail (.tail .refl ⟨(("Yellow", 0), 4), by decide, rfl⟩) ⟨(("Left", 0), 6), by decide, rfl⟩

example : Relation.ReflTransGen (genLTS (genGame .A 2 1 b21 q0)).Step 0 6 := reach_0_6

/-- ... hence, by `reachable_image`, it is the number of a reachable valid situation -/
example : ∃ s, Relation.ReflTransGen (specLTS .A 2 1 b21 q0).Step (.light 0 0) s ∧
    Valid .A 2 1 b21 s ∧ 6 = enc .A 2 1 s :=
  (reachable_image .A 2 1 b21 b21_ok q0 6).mp reach_0_6

/-- state 5 (the `Etha` row of the down-only tile) is NOT the image of a valid situation, and
by `reachable_image` it is not reachable from 0 -/
example : ¬ Relation.ReflTransGen (genLTS (genGame .A 2 1 b21 q0)).Step 0 5 := by
  rw [reachable_image .A 2 1 b21 b21_ok q0 5]
  rintro ⟨s, _, hv, he⟩
  -- place 5 of `states .A 2 1` is `lr 1 0`, which is not valid on the down-only tile
  obtain rfl : RState.lr 1 0 = s := by rw [← GridLemmas.dec_enc hv, ← he]; rfl
  exact hv.2.2 (by decide)

end CR.C08
