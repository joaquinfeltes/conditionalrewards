/-
C13, one more way of writing a game down: the ORDER in which the final states are listed, and
whether one of them is listed more than once, is irrelevant.

`check_game` only asks whether the list is empty and whether all its entries are in range, the initial
vector uses membership, and the backward search returns the ascending list of the non-final states
that can reach a member of the list (C07: its output is determined by the SET of final states).  Hence
two descriptions that differ only in the list of final states, with the same members, are solved to the
same result — every component of it, in both modes, for every threshold, fuel and rounding function,
and they fail in the same way when they fail.
-/
import CR.Lemmas.Rdfs
import CR.Model.Solver
import Mathlib.Algebra.Order.Field.Basic

namespace CR.C13

open CR

variable {K : Type} [Field K] [LinearOrder K] [IsStrictOrderedRing K]

omit [IsStrictOrderedRing K] in
/-- the reachability phase depends on the set of final states only -/
theorem solveReach_finals_irrelevant (rnd : K → Int) (thr : K) (fuel : Nat) (prune : Bool) (g : Game K)
    (f' : List Nat) (hmem : ∀ s, s ∈ f' ↔ s ∈ g.finals) :
    solveReach rnd thr fuel prune { g with finals := f' } = solveReach rnd thr fuel prune g := by
  have he : f'.isEmpty = g.finals.isEmpty := by
    rw [Bool.eq_iff_iff]; simp only [List.isEmpty_iff, List.eq_nil_iff_forall_not_mem, hmem]
  have ha : ∀ p : Nat → Bool, f'.any p = g.finals.any p := fun p => by
    rw [Bool.eq_iff_iff]; simp only [List.any_eq_true, hmem]
  have hk : ∀ s, f'.contains s = g.finals.contains s := fun s => by
    rw [Bool.eq_iff_iff]; simp only [List.contains_iff_mem, hmem]
  have hc : checkGame { g with finals := f' } = checkGame g := by
    simp only [checkGame, he, ha]
  have hi : initStates { g with finals := f' } = initStates g := rfl
  have hr : reverseDfs (g.tl.toList.map (fun row => row.map (·.tgt))) f'
      = reverseDfs (g.tl.toList.map (fun row => row.map (·.tgt))) g.finals :=
    RdfsLemmas.reverseDfs_congr _ f' g.finals hmem
  simp only [solveReach, hc, hi, hr, hk]

set_option linter.unusedSectionVars false in
/-- **the whole result depends on the set of final states only** (order and repetitions in
`final_states` are irrelevant) -/
theorem solve_finals_irrelevant (rnd : K → Int) (thr : K) (fuel : Nat) (prune : Bool) (g : Game K)
    (f' : List Nat) (hmem : ∀ s, s ∈ f' ↔ s ∈ g.finals) :
    solve rnd thr fuel prune { g with finals := f' } = solve rnd thr fuel prune g := by
  have hs := solveReach_finals_irrelevant rnd thr fuel prune g f' hmem
  have hcond : ∀ st (re : Array K), condition prune { g with finals := f' } st re
      = condition prune g st re := fun _ _ => rfl
  simp only [solve, hs, hcond]

end CR.C13
