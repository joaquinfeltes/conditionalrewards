/-
Property C14: the two diagnostic outputs of `solve`.

"Whenever the reported final strategies are single actions, the 'probabilities under minimal
reward' output equals each state's probability of reaching a final state in the conditioned game
when both players follow their final strategies …, and the 'rewards under minimal reachability'
output equals the expected total reward when Player 1 follows its final strategy while Player 2
plays its reported reachability strategy, choosing among several the cheapest."

As for C02, the loop stops on the residual of the last sweep, so only the CONSISTENCY form is
provable; it is proved here, over an arbitrary linearly ordered field `K`:

1. `diag_follows_reported_p1/p2`: the successor that the sweep follows for the two diagnostics (the
   LAST successor with maximal / minimal raw `er`) carries an action that is listed in the
   reported final strategy (arg-max / arg-min of the ROUNDED values), for a monotone rounding
   function; hence it carries THE reported action when the final strategy is a single action.
2. `diag_step_p1/p2`: closed forms of the 2nd and 3rd component of `stepRew` at player states
   (probabilistic and emptied states: `Rew.stepRew_prob`, `Rew.stepRew_nil`).
3. `diag_consistency_*`: the reported diagnostics are `thr`-consistent with their own update
   equations at the reported vectors — unconditionally at probabilistic states and for the
   "rewards under minimal reachability" of Player-2 states; at player states in general only under
   the hypothesis that the last sweep left `er` unchanged (otherwise the followed successor may
   have changed within the last sweep).

Vocabulary (`CR/Lemmas/RewStep.lean`): `IsLastMax x row t` / `IsLastMin x row t`: `t` splits `row`
as `pre ++ t :: post` with `x[u] ≤ x[t]` on `pre` and `x[u] < x[t]` on `post` (resp. `≥`, `>`);
`NodesWF`: probabilistic rows are empty or distributions.
-/
import CR.Lemmas.Rew

namespace CR.C14

open CR CR.VI CR.Rew

variable {K : Type} [Field K] [LinearOrder K] [IsStrictOrderedRing K]

omit [IsStrictOrderedRing K] in
/-- 1 (Player 1). For a monotone rounding function, every successor with maximal raw value
carries an action of the arg-max list of the rounded values, provided that list is not empty
(it is empty only if all rounded values are negative) -/
theorem max_mem_bestStrat (rnd : K → Int) (hmono : ∀ x y, x ≤ y → rnd x ≤ rnd y)
    (er : Array K) (row : List (Tr K)) (hne : bestStrat rnd er row ≠ []) {t : Tr K} (ht : t ∈ row)
    (hmax : ∀ u ∈ row, er.getD u.tgt 0 ≤ er.getD t.tgt 0) : t.act ∈ bestStrat rnd er row := by
  have hkey : ∀ u ∈ row, rkey rnd er u ≤ rkey rnd er t := fun u hu => hmono _ _ (hmax u hu)
  refine (mem_bestStrat_iff rnd er row).2 ⟨t, ht, rfl, Int.not_lt.1 fun h0 => hne ?_, hkey⟩
  exact (bestStrat_eq_nil_iff rnd er row).2 fun u hu => Int.lt_of_le_of_lt (hkey u hu) h0

omit [IsStrictOrderedRing K] in
/-- 1 (Player 1). If the reported arg-max list of the rounded values is a single action `a`, the
successor the sweep follows (the last one with maximal raw value) carries the action `a`: the raw
arg-max and the rounded arg-max agree -/
theorem diag_follows_reported_p1 (rnd : K → Int) (hmono : ∀ x y, x ≤ y → rnd x ≤ rnd y)
    (er : Array K) (row : List (Tr K)) (a : String) (hbest : bestStrat rnd er row = [a])
    (t : Tr K) (ht : IsLastMax er row t) : t.act = a := by
  have := max_mem_bestStrat rnd hmono er row (by rw [hbest]; simp) ht.mem ht.ge
  rw [hbest] at this
  simpa using this

omit [IsStrictOrderedRing K] in
/-- 1 (Player 2). Every successor with minimal raw value carries an action of the arg-min list
of the rounded values (`worstStratRew`, which starts from the first successor's value) -/
theorem min_mem_worstStratRew (rnd : K → Int) (hmono : ∀ x y, x ≤ y → rnd x ≤ rnd y)
    (er : Array K) (row : List (Tr K)) {t : Tr K} (ht : t ∈ row)
    (hmin : ∀ u ∈ row, er.getD t.tgt 0 ≤ er.getD u.tgt 0) : t.act ∈ worstStratRew rnd er row :=
  (mem_worstStratRew_iff rnd er row).2 ⟨t, ht, rfl, fun u hu => hmono _ _ (hmin u hu)⟩

omit [IsStrictOrderedRing K] in
/-- 1 (Player 2). If the reported arg-min list of the rounded values is a single action `a`, the
successor the sweep follows (the last one with minimal raw value) carries the action `a` -/
theorem diag_follows_reported_p2 (rnd : K → Int) (hmono : ∀ x y, x ≤ y → rnd x ≤ rnd y)
    (er : Array K) (row : List (Tr K)) (a : String) (hworst : worstStratRew rnd er row = [a])
    (t : Tr K) (ht : IsLastMin er row t) : t.act = a := by
  have := min_mem_worstStratRew rnd hmono er row ht.mem ht.le
  rw [hworst] at this
  simpa using this

theorem eq_of_filter_act {α : Type} {row : List (Tr α)} {a : String} {u t : Tr α}
    (huniq : row.filter (fun t => t.act == a) = [u]) (ht : t ∈ row) (hta : t.act = a) : t = u :=
  List.mem_singleton.mp (huniq ▸ List.mem_filter.mpr ⟨ht, beq_iff_eq.mpr hta⟩)

section Step
variable (rnd : K → Int) (owners : Array Owner) (rewards : Array K)
  (nodes : Array (List (Tr K))) (reach : Array K)

/-- 2 (Player 1). A successful step at a Player-1 state with a non-empty row follows the last
successor `t` with maximal `er` (its value is `≥ 0`, the start value of the running maximum) and
returns `(er[t] + r, ermr[t] + r, pmr[t])` -/
theorem diag_step_p1 (v : RewVecs K) (s : Nat) (hne : nodes.getD s [] ≠ [])
    (ho : owners.getD s .prob = .p1) (e m p : K)
    (h : stepRew rnd owners rewards nodes reach v s = .ok (e, m, p)) :
    ∃ t, IsLastMax v.er (nodes.getD s []) t ∧ 0 ≤ v.er.getD t.tgt 0 ∧
      e = v.er.getD t.tgt 0 + rewards.getD s 0 ∧
      m = v.ermr.getD t.tgt 0 + rewards.getD s 0 ∧ p = v.pmr.getD t.tgt 0 := by
  rw [stepRew_p1 hne ho] at h
  rcases selMax_snd v.er (nodes.getD s []) (0, none) with ⟨h1, _, _⟩ | ⟨t, h1, h2, h3, h4⟩
  · rw [h1] at h; cases h
  · rw [h1] at h
    cases h
    exact ⟨t, h4, h3, by rw [h2], rfl, rfl⟩

/-- 2 (Player 1), failure: the step raises `UnboundLocalError` exactly when every successor has a
negative `er` value -/
theorem diag_step_p1_unbound (v : RewVecs K) (s : Nat) (hne : nodes.getD s [] ≠ [])
    (ho : owners.getD s .prob = .p1) :
    stepRew rnd owners rewards nodes reach v s = .error .unbound ↔
      ∀ u ∈ nodes.getD s [], v.er.getD u.tgt 0 < 0 := by
  rw [stepRew_p1 hne ho]
  rcases selMax_snd v.er (nodes.getD s []) (0, none) with ⟨h1, _, h3⟩ | ⟨t, h1, _, h3, h4⟩
  · rw [h1]; exact ⟨fun _ => h3, fun _ => rfl⟩
  · rw [h1]
    constructor
    · intro h; cases h
    · intro h; exact absurd (h t h4.mem) (not_lt.mpr h3)

/-- 2 (Player 1) with a single reported action: if the final strategy of the state (computed
from the same `er`) is the single action `a` and `u` is the only transition of the row named `a`,
both diagnostics are taken from `u`'s target -/
theorem diag_step_p1_reported (hmono : ∀ x y, x ≤ y → rnd x ≤ rnd y) (v : RewVecs K) (s : Nat)
    (ho : owners.getD s .prob = .p1) (a : String)
    (hbest : bestStrat rnd v.er (nodes.getD s []) = [a]) (u : Tr K)
    (huniq : (nodes.getD s []).filter (fun t => t.act == a) = [u]) (e m p : K)
    (h : stepRew rnd owners rewards nodes reach v s = .ok (e, m, p)) :
    m = v.ermr.getD u.tgt 0 + rewards.getD s 0 ∧ p = v.pmr.getD u.tgt 0 := by
  have hne : nodes.getD s [] ≠ [] := by
    intro h0; rw [h0, bestStrat_nil] at hbest; cases hbest
  obtain ⟨t, ht, _, _, hm, hp⟩ := diag_step_p1 rnd owners rewards nodes reach v s hne ho e m p h
  obtain rfl := eq_of_filter_act huniq ht.mem (diag_follows_reported_p1 rnd hmono v.er _ a hbest t ht)
  exact ⟨hm, hp⟩

/-- 2 (Player 2). A step at a Player-2 state with a non-empty row always succeeds; its `ermr`
component is `_expected_rewards_min_reach` of the REACHABILITY arg-min list
`worstStratFrom rnd (rnd 1) reach row`; its `er` and `pmr` components follow the last successor
`t` with minimal `er` -/
theorem diag_step_p2 (v : RewVecs K) (s : Nat) (hne : nodes.getD s [] ≠ [])
    (ho : owners.getD s .prob = .p2) :
    ∃ e m p, stepRew rnd owners rewards nodes reach v s = .ok (e, m, p) ∧
      m = p2RewMinReach (rewards.getD s 0) v.ermr (nodes.getD s [])
        (worstStratFrom rnd (rnd 1) reach (nodes.getD s [])) ∧
      ∃ t, IsLastMin v.er (nodes.getD s []) t ∧
        e = v.er.getD t.tgt 0 + rewards.getD s 0 ∧ p = v.pmr.getD t.tgt 0 := by
  obtain ⟨t0, rest, hrow⟩ := List.exists_cons_of_ne_nil hne
  rw [stepRew_p2 hrow ho, hrow]
  obtain ⟨h1, h2⟩ := selMin_start v.er t0 rest
  exact ⟨_, _, _, rfl, rfl, _, h2, by rw [h1], rfl⟩

/-- 2 (Player 2). `_expected_rewards_min_reach`: `0` if no transition carries an action of the
list `strat`, otherwise the reward plus the least `ermr` value among those transitions ("choosing
among several the cheapest") -/
theorem p2RewMinReach_spec (r : K) (ermr : Array K) (row : List (Tr K)) (strat : List String) :
    (row.filter (fun t => strat.contains t.act) = [] → p2RewMinReach r ermr row strat = 0) ∧
    (row.filter (fun t => strat.contains t.act) ≠ [] →
      (∀ t ∈ row, strat.contains t.act = true →
        p2RewMinReach r ermr row strat ≤ ermr.getD t.tgt 0 + r) ∧
      ∃ t ∈ row, strat.contains t.act = true ∧
        p2RewMinReach r ermr row strat = ermr.getD t.tgt 0 + r) := by
  rw [p2RewMinReach_eq]
  cases hf : row.filter (fun t => strat.contains t.act) with
  | nil => exact ⟨fun _ => rfl, fun h => absurd rfl h⟩
  | cons t0 rest =>
    refine ⟨fun h => (by cases h), fun _ => ⟨?_, ?_⟩⟩
    · intro t ht hc
      have : t ∈ t0 :: rest := by rw [← hf]; exact List.mem_filter.mpr ⟨ht, hc⟩
      simp only []
      exact add_le_add_left (minOver_le_mem _ _ _ t this) r
    · have hmem : ∀ t ∈ t0 :: rest, t ∈ row ∧ strat.contains t.act = true := by
        intro t ht; rw [← hf] at ht; exact List.mem_filter.mp ht
      simp only []
      rcases minOver_attained ermr (t0 :: rest) (ermr.getD t0.tgt 0) with h | ⟨t, ht, h⟩
      · exact ⟨t0, (hmem t0 List.mem_cons_self).1, (hmem t0 List.mem_cons_self).2, by rw [h]⟩
      · exact ⟨t, (hmem t ht).1, (hmem t ht).2, by rw [h]⟩

/-- 2 (Player 2) with a single reported action: if the final strategy of the state is the single
action `a` and `u` is the only transition of the row named `a`, the "probabilities under minimal
reward" component is taken from `u`'s target -/
theorem diag_step_p2_reported (hmono : ∀ x y, x ≤ y → rnd x ≤ rnd y) (v : RewVecs K) (s : Nat)
    (ho : owners.getD s .prob = .p2) (a : String)
    (hworst : worstStratRew rnd v.er (nodes.getD s []) = [a]) (u : Tr K)
    (huniq : (nodes.getD s []).filter (fun t => t.act == a) = [u]) (e m p : K)
    (h : stepRew rnd owners rewards nodes reach v s = .ok (e, m, p)) :
    e = v.er.getD u.tgt 0 + rewards.getD s 0 ∧ p = v.pmr.getD u.tgt 0 := by
  have hne : nodes.getD s [] ≠ [] := by
    intro h0; rw [h0, worstStratRew_nil] at hworst; cases hworst
  obtain ⟨e', m', p', h', _, t, ht, he, hp⟩ := diag_step_p2 rnd owners rewards nodes reach v s hne ho
  rw [h] at h'
  cases h'
  obtain rfl := eq_of_filter_act huniq ht.mem (diag_follows_reported_p2 rnd hmono v.er _ a hworst t ht)
  exact ⟨he, hp⟩

end Step

section
variable {rnd : K → Int} {thr : K} {fuel : Nat} {prune : Bool} {g : Game K} {out : SolveOut K}

/-- with non-negative probabilities on the conditioned rows, the step function never raises at
the reported vectors -/
theorem diag_step_ok (hwf : NodesWF g.owners out.nodes)
    (H : solve rnd thr fuel prune g = .ok out) (s : Nat) :
    ∃ t, stepRew rnd g.owners g.rewards out.nodes out.probs
      { er := out.rewards, ermr := out.rewMinReach, pmr := out.probMinRew } s = .ok t :=
  stepRew_ok_of_nonneg _ s (solve_er_nonneg H hwf.rowNonneg)

/-- 3, residual form. If the reported vectors are the result of a sweep from `v` with reported
change `d`, then for every state `s` that is probabilistic, or for every state at all if the
sweep left `er` unchanged, the diagnostics recomputed at the reported vectors are within `d` of
the reported diagnostics -/
theorem diag_residual (hwf : NodesWF g.owners out.nodes)
    (H : solve rnd thr fuel prune g = .ok out) (v : RewVecs K) (d : K)
    (hsw : sweepRew rnd g.owners g.rewards out.nodes out.probs v =
      .ok ({ er := out.rewards, ermr := out.rewMinReach, pmr := out.probMinRew }, d))
    (s : Nat) (hs : s < g.owners.size)
    (her : g.owners.getD s .prob = .prob ∨ ∀ j, v.er.getD j 0 = out.rewards.getD j 0)
    (e m p : K)
    (hst : stepRew rnd g.owners g.rewards out.nodes out.probs
      { er := out.rewards, ermr := out.rewMinReach, pmr := out.probMinRew } s = .ok (e, m, p)) :
    |m - out.rewMinReach.getD s 0| ≤ d ∧ |p - out.probMinRew.getD s 0| ≤ d :=
  sweepRew_diag hwf (sized_of_last_sweep H hsw) hsw s hs her hst

/-- 3 (a). **Probabilistic states, unconditionally**: if the loop ran (`thr < 1`), both reported
diagnostics of a probabilistic state are within `thr` of their update equations
`r + Σ ermr[t]·p` and `Σ pmr[t]·p` evaluated at the reported vectors (`0` and `0` for an emptied
state) -/
theorem diag_consistency_prob (hwf : NodesWF g.owners out.nodes) (hthr : thr < 1)
    (H : solve rnd thr fuel prune g = .ok out) (s : Nat) (hs : s < g.owners.size)
    (ho : g.owners.getD s .prob = .prob) :
    ∃ e m p, stepRew rnd g.owners g.rewards out.nodes out.probs
        { er := out.rewards, ermr := out.rewMinReach, pmr := out.probMinRew } s = .ok (e, m, p) ∧
      |m - out.rewMinReach.getD s 0| ≤ thr ∧ |p - out.probMinRew.getD s 0| ≤ thr := by
  obtain ⟨⟨e, m, p⟩, hst⟩ := diag_step_ok hwf H s
  refine ⟨e, m, p, hst, ?_⟩
  obtain ⟨v, d, _, hsw, hd⟩ := solve_last_sweep H hthr
  obtain ⟨h1, h2⟩ := diag_residual hwf H v d hsw s hs (Or.inl ho) e m p hst
  exact ⟨le_trans h1 hd, le_trans h2 hd⟩

/-- 3 (a) in closed form, for a probabilistic state that kept transitions -/
theorem diag_consistency_prob_closed (hwf : NodesWF g.owners out.nodes) (hthr : thr < 1)
    (H : solve rnd thr fuel prune g = .ok out) (s : Nat) (hs : s < g.owners.size)
    (ho : g.owners.getD s .prob = .prob) (hne : out.nodes.getD s [] ≠ []) :
    |g.rewards.getD s 0 +
        ((out.nodes.getD s []).map (fun t => out.rewMinReach.getD t.tgt 0 * t.p)).sum
        - out.rewMinReach.getD s 0| ≤ thr ∧
    |((out.nodes.getD s []).map (fun t => out.probMinRew.getD t.tgt 0 * t.p)).sum
        - out.probMinRew.getD s 0| ≤ thr := by
  obtain ⟨e, m, p, hst, h1, h2⟩ := diag_consistency_prob hwf hthr H s hs ho
  rw [stepRew_prob hne ho] at hst
  cases hst
  exact ⟨h1, h2⟩

/-- 3 (a'). **Player-2 states, "rewards under minimal reachability", unconditionally**: the
transitions this quantity ranges over are fixed by the reachability strategy, so it is within
`thr` of `_expected_rewards_min_reach` evaluated at the reported `ermr` vector -/
theorem diag_consistency_p2_ermr (hthr : thr < 1)
    (H : solve rnd thr fuel prune g = .ok out) (s : Nat) (hs : s < g.owners.size)
    (ho : g.owners.getD s .prob = .p2) (hne : out.nodes.getD s [] ≠ []) :
    |p2RewMinReach (g.rewards.getD s 0) out.rewMinReach (out.nodes.getD s [])
        (worstStratFrom rnd (rnd 1) out.probs (out.nodes.getD s []))
      - out.rewMinReach.getD s 0| ≤ thr := by
  obtain ⟨e, m, p, hst, hm, _⟩ := diag_step_p2 rnd g.owners g.rewards out.nodes out.probs
    { er := out.rewards, ermr := out.rewMinReach, pmr := out.probMinRew } s hne ho
  obtain ⟨v, d, hv, hsw, hd⟩ := solve_last_sweep H hthr
  rw [← hm]
  exact le_trans (sweepRew_diag_p2_ermr hv hsw s hs ho hst) hd

/-- 3 (b). **Player states, when the last sweep left `er` unchanged**: for every last sweep
`(v, d)` producing the reported vectors with `d ≤ thr` and `v.er` equal to the reported rewards,
the diagnostics recomputed at the reported vectors (following the same successor) are within
`thr` of the reported ones, at every state -/
theorem diag_consistency_of_er_unchanged (hwf : NodesWF g.owners out.nodes)
    (H : solve rnd thr fuel prune g = .ok out) (v : RewVecs K) (d : K)
    (hsw : sweepRew rnd g.owners g.rewards out.nodes out.probs v =
      .ok ({ er := out.rewards, ermr := out.rewMinReach, pmr := out.probMinRew }, d))
    (hd : ¬ (d > thr)) (her : ∀ j, v.er.getD j 0 = out.rewards.getD j 0)
    (s : Nat) (hs : s < g.owners.size) :
    ∃ e m p, stepRew rnd g.owners g.rewards out.nodes out.probs
        { er := out.rewards, ermr := out.rewMinReach, pmr := out.probMinRew } s = .ok (e, m, p) ∧
      |m - out.rewMinReach.getD s 0| ≤ thr ∧ |p - out.probMinRew.getD s 0| ≤ thr := by
  obtain ⟨⟨e, m, p⟩, hst⟩ := diag_step_ok hwf H s
  obtain ⟨h1, h2⟩ := diag_residual hwf H v d hsw s hs (Or.inr her) e m p hst
  exact ⟨e, m, p, hst, le_trans h1 (not_lt.mp hd), le_trans h2 (not_lt.mp hd)⟩

/-- 3 (b) for a Player-1 state with a single reported action `a` carried by exactly one
transition `u`: the reported diagnostics of the state are within `thr` of those of `u`'s target
(plus the state's reward), provided the last sweep left `er` unchanged -/
theorem diag_consistency_p1_reported (hwf : NodesWF g.owners out.nodes)
    (hmono : ∀ x y, x ≤ y → rnd x ≤ rnd y)
    (H : solve rnd thr fuel prune g = .ok out) (v : RewVecs K) (d : K)
    (hsw : sweepRew rnd g.owners g.rewards out.nodes out.probs v =
      .ok ({ er := out.rewards, ermr := out.rewMinReach, pmr := out.probMinRew }, d))
    (hd : ¬ (d > thr)) (her : ∀ j, v.er.getD j 0 = out.rewards.getD j 0)
    (s : Nat) (ho : g.owners.getD s .prob = .p1) (a : String)
    (hfin : out.finalStrat.getD s none = some [a]) (u : Tr K)
    (huniq : (out.nodes.getD s []).filter (fun t => t.act == a) = [u]) :
    |out.rewMinReach.getD u.tgt 0 + g.rewards.getD s 0 - out.rewMinReach.getD s 0| ≤ thr ∧
    |out.probMinRew.getD u.tgt 0 - out.probMinRew.getD s 0| ≤ thr := by
  have hs : s < g.owners.size := owner_lt_size (by rw [ho]; simp)
  obtain ⟨e, m, p, hst, h1, h2⟩ := diag_consistency_of_er_unchanged hwf H v d hsw hd her s hs
  have hbest : bestStrat rnd out.rewards (out.nodes.getD s []) = [a] :=
    Option.some.inj ((finalStrat_p1 H ho).symm.trans hfin)
  obtain ⟨hm, hp⟩ := diag_step_p1_reported rnd g.owners g.rewards out.nodes out.probs hmono
    { er := out.rewards, ermr := out.rewMinReach, pmr := out.probMinRew } s ho a hbest u huniq
    e m p hst
  rw [hm] at h1; rw [hp] at h2
  exact ⟨h1, h2⟩

end

section NonVacuity
open CR.Examples CR.Rew.Examples

/-- `NodesWF` on concrete conditioned lists -/
example : NodesWF g7.owners g7nodes := g7_wf

/-- the rounding function of the `Rat` instance satisfies the monotonicity hypothesis -/
example : ∀ x y : Rat, x ≤ y → roundRat 6 x ≤ roundRat 6 y := roundRat_mono 6

/-- one concrete `stepRew` evaluation per node kind: probabilistic state 1, Player-1 state 3 and
emptied state 2 of `g7`; Player-2 state 1 of `g6` (its reachability arg-min list is `["y"]`, both
successors have `er = 0`, the LAST one — `y` — is followed for `pmr`) -/
example :
    stepRew (roundRat 6) g7.owners g7.rewards g7nodes g7probs g7vecs 1 = .ok (2, 2, 1) ∧
    stepRew (roundRat 6) g7.owners g7.rewards g7nodes g7probs g7vecs 3 = .ok (2, 2, 1) ∧
    stepRew (roundRat 6) g7.owners g7.rewards g7nodes g7probs g7vecs 2 = .ok (0, 0, 0) ∧
    stepRew (roundRat 6) g6.owners g6.rewards g6nodes g6probs g6vecs 1 = .ok (0, 0, 1) := by
  decide +kernel

/-- `IsLastMax` / `IsLastMin` are satisfiable: at the Player-2 state 1 of `g6` both successors
have `er = 0`; the last one is the last minimal AND the last maximal one -/
example : IsLastMin g6vecs.er (g6nodes.getD 1 []) (tr "y" 0 2) ∧
    IsLastMax g6vecs.er (g6nodes.getD 1 []) (tr "y" 0 2) :=
  ⟨⟨[tr "x" 0 4], [], rfl, by decide +kernel, by simp⟩,
   ⟨[tr "x" 0 4], [], rfl, by decide +kernel, by simp⟩⟩

/-- the hypotheses of `diag_step_p1_reported` hold together at the Player-1 state 3 of `g7`:
single reported action `gamma`, carried by exactly one transition -/
example :
    stepRew (roundRat 6) g7.owners g7.rewards g7nodes g7probs g7vecs 3 = .ok (2, 2, 1) ∧
    (2 : Rat) = g7vecs.ermr.getD 5 0 + g7.rewards.getD 3 0 ∧ (1 : Rat) = g7vecs.pmr.getD 5 0 := by
  have h : stepRew (roundRat 6) g7.owners g7.rewards g7nodes g7probs g7vecs 3 = .ok (2, 2, 1) := by
    decide +kernel
  have := diag_step_p1_reported (roundRat 6) g7.owners g7.rewards g7nodes g7probs
    (roundRat_mono 6) g7vecs 3 rfl "gamma" (by decide +kernel) (tr "gamma" 0 5)
    (by decide +kernel) 2 2 1 h
  exact ⟨h, this⟩

/-- the hypotheses of `diag_step_p2_reported` are satisfiable (a Player-2 row `x→1, y→2` with
`er = [0, 5, 3]`: the single reported action is `y`) -/
example : worstStratRew (roundRat 6) (#[0, 5, 3] : Array Rat) [tr "x" 0 1, tr "y" 0 2] = ["y"] ∧
    [tr "x" 0 1, tr "y" 0 2].filter (fun t => t.act == "y") = [tr "y" 0 2] := by
  decide +kernel

/-- all hypotheses of `diag_consistency_prob` and of `diag_consistency_p1_reported` (including
"the last sweep left `er` unchanged") hold together on the concrete run of `g7` -/
example : ∃ out, solve (roundRat 6) thr 1000 true g7 = .ok out ∧
    (∃ e m p, stepRew (roundRat 6) g7.owners g7.rewards out.nodes out.probs
        { er := out.rewards, ermr := out.rewMinReach, pmr := out.probMinRew } 1 = .ok (e, m, p) ∧
      |m - out.rewMinReach.getD 1 0| ≤ thr ∧ |p - out.probMinRew.getD 1 0| ≤ thr) ∧
    |out.rewMinReach.getD 5 0 + g7.rewards.getD 3 0 - out.rewMinReach.getD 3 0| ≤ thr ∧
    |out.probMinRew.getD 5 0 - out.probMinRew.getD 3 0| ≤ thr :=
  -- `g7_wf` and `g7_sweep` speak of `g7nodes`, `g7probs`, `g7vecs`: identified with the fields of
  -- the run once, not by unification at each use
  have hwf : NodesWF g7.owners g7out_true.nodes := g7_wf
  have hsw : sweepRew (roundRat 6) g7.owners g7.rewards g7out_true.nodes g7out_true.probs g7vecs =
      .ok ({ er := g7out_true.rewards, ermr := g7out_true.rewMinReach,
             pmr := g7out_true.probMinRew }, 0) := g7_sweep
  ⟨g7out_true, g7_solve_true,
    diag_consistency_prob hwf (by decide +kernel) g7_solve_true 1 (by decide) rfl,
    diag_consistency_p1_reported hwf (roundRat_mono 6) g7_solve_true g7vecs 0 hsw
      (by decide +kernel) (fun _ => rfl) 3 rfl "gamma" rfl (tr "gamma" 0 5) (by decide +kernel)⟩

end NonVacuity

end CR.C14
