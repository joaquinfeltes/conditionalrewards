/-
C15 (real-number part): the un-clamped reward formula
`floor(-log(a + u (1-a)) / log 2)` with `a = 2^-(m+1)` is already within `0..m` for every draw
`u` strictly inside `(0,1)`; the clamp `min(max_reward, ·)` only matters for the draw `u = 0`
(which `random.random()` may return), where the value is `m+1`.
Over ℝ (idealised arithmetic), separate file because of the heavy import.
-/
import Mathlib.Analysis.SpecialFunctions.Log.Base

namespace CR.C15

theorem logb_smallest (m : ℕ) : Real.logb 2 ((2 : ℝ) ^ (-(m + 1 : ℤ))) = -((m : ℝ) + 1) := by
  have hl : Real.log 2 ≠ 0 := ne_of_gt (Real.log_pos (by norm_num))
  simp only [Real.logb, Real.log_zpow]
  rw [mul_div_assoc, div_self hl]
  push_cast
  ring

/-- 7. the reward formula over ℝ is in range on the open interval -/
theorem reward_formula_range (m : ℕ) (u : ℝ) (hu0 : 0 < u) (hu1 : u < 1) :
    let a : ℝ := (2 : ℝ) ^ (-(m + 1 : ℤ))
    0 ≤ ⌊-Real.logb 2 (a + u * (1 - a))⌋ ∧ ⌊-Real.logb 2 (a + u * (1 - a))⌋ ≤ (m : ℤ) := by
  intro a
  have h12 : (1 : ℝ) < 2 := one_lt_two
  have ha0 : 0 < a := zpow_pos (zero_lt_one.trans h12) _
  have ha1 : a < 1 := zpow_lt_one_of_neg₀ h12 (by omega)
  have h1a : 0 < 1 - a := sub_pos.2 ha1
  have hx0 : a < a + u * (1 - a) := lt_add_of_pos_right a (mul_pos hu0 h1a)
  have hx1 : a + u * (1 - a) < 1 := lt_sub_iff_add_lt'.1 (mul_lt_of_lt_one_left h1a hu1)
  have h1 : Real.logb 2 (a + u * (1 - a)) < 0 := Real.logb_neg h12 (ha0.trans hx0) hx1
  have h2 : -((m : ℝ) + 1) < Real.logb 2 (a + u * (1 - a)) := by
    rw [← logb_smallest]
    exact Real.logb_lt_logb h12 ha0 hx0
  refine ⟨Int.floor_nonneg.mpr (neg_nonneg.2 h1.le), Int.lt_add_one_iff.1 (Int.floor_lt.2 ?_)⟩
  push_cast
  exact neg_lt.1 h2

/-- 7b. at `u = 0` the un-clamped value is `m + 1`: the clamp is needed -/
theorem reward_formula_at_zero (m : ℕ) :
    let a : ℝ := (2 : ℝ) ^ (-(m + 1 : ℤ))
    ⌊-Real.logb 2 (a + 0 * (1 - a))⌋ = (m : ℤ) + 1 := by
  intro a
  rw [zero_mul, add_zero, logb_smallest, neg_neg]
  exact_mod_cast Int.floor_intCast (R := ℝ) ((m : ℤ) + 1)

/-- non-vacuity: the hypotheses are satisfiable, e.g. `m = 6`, `u = 1/2` -/
example :
    let a : ℝ := (2 : ℝ) ^ (-((6 : ℕ) + 1 : ℤ))
    0 ≤ ⌊-Real.logb 2 (a + 1 / 2 * (1 - a))⌋ ∧ ⌊-Real.logb 2 (a + 1 / 2 * (1 - a))⌋ ≤ ((6 : ℕ) : ℤ) :=
  reward_formula_range 6 (1 / 2) (by norm_num) (by norm_num)

end CR.C15
