/-
C01, negative part: the clause "every other state reports a number … within the solver's
convergence tolerance of the true value" is FALSE of the algorithm the code implements
(value iteration that stops on a small CHANGE).  Witness, proved in the model over exact
rationals by kernel evaluation: the three-state game `exGame` (state 0 stays with 3/4, reaches
the final state with 1/8 and the sink with 1/8) has value 1/2 at state 0; with the threshold
10⁻⁶ the solver stops after 42 sweeps and reports a number more than 2·10⁻⁶ below 1/2.
The same game is replayed on the real code on every run (findings/C01-residual-stop.json,
known finding `C01.tolerance@…:residual-stop`).
-/
import CR.Props.C01

namespace CR.C01
open CR CR.VI

/-- **the tolerance clause of C01 fails**: a successful run, with the solver's own threshold,
whose report for state 0 is further than TWICE the threshold below the true value
(the run is evaluated by the kernel: 42 sweeps over exact rationals) -/
theorem tolerance_clause_fails :
    ∃ r, solveReach (roundRat 6) (1/1000000 : Rat) 100 false exGame = .ok r ∧ r.iters = 42 ∧
      IsValue exGame #[1/2, 1, 0] ∧ (1/2 : Rat) - r.probs.getD 0 0 > 2 * (1/1000000) := by
  obtain ⟨r, H, h⟩ := exists_ok_of_toOption_map
    (f := fun r => decide (r.iters = 42 ∧ (1/2 : Rat) - r.probs.getD 0 0 > 2 * (1/1000000)))
    (x := true) (r := solveReach (roundRat 6) (1/1000000 : Rat) 100 false exGame)
    (by unfold solveReach; rw [exGame_order]
        decide +kernel)
  obtain ⟨h1, h2⟩ := of_decide_eq_true h
  exact ⟨r, H, h1, exGame_value, h2⟩

end CR.C01
