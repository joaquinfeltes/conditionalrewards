/-
Property C04 — reachability strategies.

"For every Player 1 state the reported reachability strategy is the list, in transition order,
of exactly those actions whose successor has the largest reachability value, for every
Player 2 state exactly those whose successor has the smallest, and probabilistic states have no
strategy. ... identical with pruning on or off."

All theorems are generic in the number type `α` and in the rounding function `rnd : α → Int`
(Python's `round(x, 6)` as a scaled integer).  Values are compared *after rounding*; the
Player-1 maximum is clamped below by the literal `0`, the Player-2 minimum is clamped above by
`rnd 1` — exactly as the code does.
-/
import CR.Lemmas.Strat
import CR.Lemmas.Runs

namespace CR.C04
open CR List

section Extract
variable {α : Type} [OfNat α 0]

/-- C04.1 — `bestStrat` is exactly the arg-max list (in transition order) of the rounded
successor values, where the maximum `M` is the running maximum started at the literal `0`. -/
theorem bestStrat_eq_filter (rnd : α → Int) (vals : Array α) (row : List (Tr α)) :
    bestStrat rnd vals row =
      (row.filter (fun t => rnd (vals.getD t.tgt 0) ==
          row.foldl (fun m t => max m (rnd (vals.getD t.tgt 0))) 0)).map (·.act) :=
  bestStrat_eq rnd vals row

/-- C04.2 — `worstStratFrom` is exactly the arg-min list of the rounded successor values, the
minimum being the running minimum started at `start`. -/
theorem worstStratFrom_eq_filter (rnd : α → Int) (start : Int) (vals : Array α)
    (row : List (Tr α)) :
    worstStratFrom rnd start vals row =
      (row.filter (fun t => rnd (vals.getD t.tgt 0) ==
          row.foldl (fun m t => min m (rnd (vals.getD t.tgt 0))) start)).map (·.act) :=
  worstStratFrom_eq rnd start vals row

/-- C04.3 — on a non-empty row `worstStratRew` starts from the first successor, hence it is
exactly the arg-min list of the rounded values (`M` is a lower bound that is attained: no
clamp), and it is non-empty. -/
theorem worstStratRew_eq_filter (rnd : α → Int) (vals : Array α) (t0 : Tr α)
    (rest : List (Tr α)) :
    worstStratRew rnd vals (t0 :: rest) =
      ((t0 :: rest).filter (fun t => rnd (vals.getD t.tgt 0) ==
          (t0 :: rest).foldl (fun m t => min m (rnd (vals.getD t.tgt 0)))
            (rnd (vals.getD t0.tgt 0)))).map (·.act) ∧
    (∀ t ∈ t0 :: rest,
      (t0 :: rest).foldl (fun m t => min m (rnd (vals.getD t.tgt 0))) (rnd (vals.getD t0.tgt 0))
        ≤ rnd (vals.getD t.tgt 0)) ∧
    (∃ t ∈ t0 :: rest, rnd (vals.getD t.tgt 0) =
      (t0 :: rest).foldl (fun m t => min m (rnd (vals.getD t.tgt 0)))
        (rnd (vals.getD t0.tgt 0))) ∧
    worstStratRew rnd vals (t0 :: rest) ≠ [] := by
  obtain ⟨_, hlb, hatt⟩ := runMin_spec (rkey rnd vals) (rkey rnd vals t0) (t0 :: rest)
  exact ⟨worstStratRew_cons rnd vals t0 rest, hlb,
    hatt.elim (fun h => ⟨t0, List.mem_cons_self, h.symm⟩) id,
    worstStratRew_ne_nil rnd vals _ (List.cons_ne_nil _ _)⟩

end Extract

section Shape
variable {α : Type} [OfNat α 0] [OfNat α 1]

/-- C04.4 — shape of the reported strategy array: one entry per state; `none` exactly for the
probabilistic states; for player states a sub-list (transition order) of the state's actions. -/
theorem strat_shape (rnd : α → Int) (owners : Array Owner) (nodes : Array (List (Tr α)))
    (reach : Array α) :
    (reachStrategies rnd owners nodes reach).size = owners.size ∧
    (∀ s, (reachStrategies rnd owners nodes reach).getD s none = none ↔
        owners.getD s .prob = .prob) ∧
    (∀ s, owners.getD s .prob ≠ .prob →
        ∃ l, (reachStrategies rnd owners nodes reach).getD s none = some l ∧
          l.Sublist ((nodes.getD s []).map (·.act))) := by
  rw [reachStrategies_eq]
  exact ⟨stratArray_size _ _ _, stratArray_getD_eq_none_iff _ _ _, fun s hs =>
    stratArray_getD_of_ne_prob _ _ hs (·.Sublist ((nodes.getD s []).map (·.act)))
      (bestStrat_sublist rnd reach _) (worstStratFrom_sublist rnd _ reach _)⟩

/-- C04.5 (Player 1) — with a non-empty row and no negative rounded successor value the strategy
is non-empty. -/
theorem strat_nonempty_p1 (rnd : α → Int) (owners : Array Owner) (nodes : Array (List (Tr α)))
    (reach : Array α) (s : Nat) (hp : owners.getD s .prob = .p1) (hne : nodes.getD s [] ≠ [])
    (hpos : ∀ t ∈ nodes.getD s [], 0 ≤ rnd (reach.getD t.tgt 0)) :
    ∃ l, (reachStrategies rnd owners nodes reach).getD s none = some l ∧ l ≠ [] := by
  rw [reachStrategies_getD, hp]
  exact ⟨_, rfl, bestStrat_ne_nil rnd reach _ hne hpos⟩

/-- C04.5 (Player 1, all successors at rounded value 0) — then ALL actions are listed. -/
theorem strat_all_zero_p1 (rnd : α → Int) (owners : Array Owner) (nodes : Array (List (Tr α)))
    (reach : Array α) (s : Nat) (hp : owners.getD s .prob = .p1)
    (hz : ∀ t ∈ nodes.getD s [], rnd (reach.getD t.tgt 0) = 0) :
    (reachStrategies rnd owners nodes reach).getD s none =
      some ((nodes.getD s []).map (·.act)) := by
  rw [reachStrategies_getD, hp]
  exact congrArg some (bestStrat_all_zero rnd reach _ hz)

/-- C04.5 (Player 2) — with a non-empty row and no rounded successor value above `rnd 1` the
strategy is non-empty. -/
theorem strat_nonempty_p2 (rnd : α → Int) (owners : Array Owner) (nodes : Array (List (Tr α)))
    (reach : Array α) (s : Nat) (hp : owners.getD s .prob = .p2) (hne : nodes.getD s [] ≠ [])
    (hle : ∀ t ∈ nodes.getD s [], rnd (reach.getD t.tgt 0) ≤ rnd 1) :
    ∃ l, (reachStrategies rnd owners nodes reach).getD s none = some l ∧ l ≠ [] := by
  rw [reachStrategies_getD, hp]
  exact ⟨_, rfl, worstStratFrom_ne_nil rnd _ reach _ hne hle⟩

/-- C04.5 — both players at once. -/
theorem strat_nonempty (rnd : α → Int) (owners : Array Owner) (nodes : Array (List (Tr α)))
    (reach : Array α) (s : Nat) (hne : nodes.getD s [] ≠ []) :
    (owners.getD s .prob = .p1 → (∀ t ∈ nodes.getD s [], 0 ≤ rnd (reach.getD t.tgt 0)) →
      ∃ l, (reachStrategies rnd owners nodes reach).getD s none = some l ∧ l ≠ []) ∧
    (owners.getD s .prob = .p2 → (∀ t ∈ nodes.getD s [], rnd (reach.getD t.tgt 0) ≤ rnd 1) →
      ∃ l, (reachStrategies rnd owners nodes reach).getD s none = some l ∧ l ≠ []) :=
  ⟨fun hp hpos => strat_nonempty_p1 rnd owners nodes reach s hp hne hpos,
   fun hp hle => strat_nonempty_p2 rnd owners nodes reach s hp hne hle⟩

end Shape

section Solver
variable {α : Type} [Add α] [Sub α] [Mul α] [Neg α] [LT α] [DecidableLT α]
  [BEq α] [OfNat α 0] [OfNat α 1]

/-- C04.6 — the strategies reported by `solveReach`, in terms of the reported probabilities:
Player 1: the actions (transition order) whose successor's rounded probability equals the
maximum (clamped below by 0); Player 2: those equal to the minimum (clamped above by `rnd 1`);
probabilistic (and out-of-range) states: none.  Holds in both pruning modes. -/
theorem strat_argmax_reported {rnd : α → Int} {thr : α} {fuel : Nat} {prune : Bool}
    {g : Game α} {r : ReachOut α} (h : solveReach rnd thr fuel prune g = .ok r) :
    r.strat.size = g.owners.size ∧
    (∀ s, g.owners.getD s .prob = .p1 →
      r.strat.getD s none = some
        (((g.tl.getD s []).filter (fun t => rnd (r.probs.getD t.tgt 0) ==
            (g.tl.getD s []).foldl (fun m t => max m (rnd (r.probs.getD t.tgt 0))) 0)).map
          (·.act))) ∧
    (∀ s, g.owners.getD s .prob = .p2 →
      r.strat.getD s none = some
        (((g.tl.getD s []).filter (fun t => rnd (r.probs.getD t.tgt 0) ==
            (g.tl.getD s []).foldl (fun m t => min m (rnd (r.probs.getD t.tgt 0))) (rnd 1))).map
          (·.act))) ∧
    (∀ s, g.owners.getD s .prob = .prob → r.strat.getD s none = none) := by
  rw [solveReach_strat h]
  refine ⟨reachStrategies_size _ _ _ _, ?_, ?_, ?_⟩
  · intro s hp
    rw [reachStrategies_getD, hp]
    exact congrArg some (bestStrat_eq rnd r.probs _)
  · intro s hp
    rw [reachStrategies_getD, hp]
    exact congrArg some (worstStratFrom_eq rnd _ r.probs _)
  · intro s hp
    rw [reachStrategies_getD, hp]

/-- C04.7a — a successful run with pruning is also the result without pruning. -/
theorem prune_irrelevant_true_false {rnd : α → Int} {thr : α} {fuel : Nat} {g : Game α}
    {r : ReachOut α} (h : solveReach rnd thr fuel true g = .ok r) :
    solveReach rnd thr fuel false g = .ok r :=
  (solveReach_true_eq_ok.mp h).1

/-- C04.7b — a successful run without pruning is the result with pruning, unless the initial
state has reachability value `== 0`, in which case pruning mode reports `noSolution`. -/
theorem prune_irrelevant_false_true {rnd : α → Int} {thr : α} {fuel : Nat} {g : Game α}
    {r : ReachOut α} (h : solveReach rnd thr fuel false g = .ok r) :
    solveReach rnd thr fuel true g = .ok r ∨
      ((r.probs.getD 0 0 == 0) = true ∧ solveReach rnd thr fuel true g = .error .noSolution) := by
  cases hz : (r.probs.getD 0 0 == 0)
  · exact .inl (solveReach_true_eq_ok.mpr ⟨h, hz⟩)
  · exact .inr ⟨rfl, solveReach_true_eq_error.mpr (.inr ⟨r, h, hz, rfl⟩)⟩

/-- C04.7c — every error other than `noSolution` is reported in one mode iff in the other. -/
theorem prune_irrelevant_errors {rnd : α → Int} {thr : α} {fuel : Nat} {g : Game α} {e : Err}
    (he : e ≠ .noSolution) :
    solveReach rnd thr fuel true g = .error e ↔ solveReach rnd thr fuel false g = .error e :=
  -- the test added by the pruning mode can only fail with `noSolution`
  solveReach_true_eq_error.trans ⟨fun h => h.elim id fun ⟨_, _, _, e'⟩ => absurd e' he, .inl⟩

/-- C04.7 — reported probabilities and reachability strategies do not depend on whether
pruning was requested (the only difference is the `noSolution` verdict of pruning mode). -/
theorem prune_irrelevant (rnd : α → Int) (thr : α) (fuel : Nat) (g : Game α) :
    (∀ r, solveReach rnd thr fuel true g = .ok r → solveReach rnd thr fuel false g = .ok r) ∧
    (∀ r, solveReach rnd thr fuel false g = .ok r →
      (solveReach rnd thr fuel true g = .ok r ∨
        ((r.probs.getD 0 0 == 0) = true ∧
          solveReach rnd thr fuel true g = .error .noSolution))) ∧
    (∀ e, e ≠ Err.noSolution →
      (solveReach rnd thr fuel true g = .error e ↔ solveReach rnd thr fuel false g = .error e)) :=
  ⟨fun _ h => prune_irrelevant_true_false h, fun _ h => prune_irrelevant_false_true h,
   fun _ he => prune_irrelevant_errors he⟩

end Solver

/-! ### non-vacuity: concrete runs over `Rat`

The runs are `Examples.g7_reach_true`, `g7_reach_false`, `g6_reach_true`: validation, value
iteration over `Rat`, rounding and strategy extraction are evaluated in the kernel there. -/

open Examples

/-- the 7-state game, pruning on: `solveReach` succeeds, with these probabilities/strategies -/
example : ∃ r, solveReach (roundRat 6) thr 1000 true g7 = .ok r ∧
    (r.probs, r.strat) =
      (#[3/4, 3/4, 1/2, 1, 0, 1, 0],
       #[some ["alfa"], none, none, some ["gamma"], none, none, none]) :=
  ⟨_, g7_reach_true, rfl⟩

/-- the same run without pruning gives the same result (an instance of C04.7) -/
example : ∃ r, solveReach (roundRat 6) thr 1000 false g7 = .ok r ∧
    (r.probs, r.strat) =
      (#[3/4, 3/4, 1/2, 1, 0, 1, 0],
       #[some ["alfa"], none, none, some ["gamma"], none, none, none]) :=
  ⟨_, g7_reach_false, rfl⟩

/-- the 6-state game: a three-way tie at the Player-1 state 0 (all actions listed, in
transition order) and a Player-2 state choosing the smaller value -/
example : ∃ r, solveReach (roundRat 6) thr 1000 true g6 = .ok r ∧
    (r.probs, r.strat) =
      (#[1/2, 1/2, 1/2, 1/2, 1, 0],
       #[some ["a", "b", "c"], some ["y"], none, none, none, none]) :=
  ⟨_, g6_reach_true, rfl⟩

/-- extractor level: arg-max with a tie, in transition order; all-zero row lists everything;
all-negative row lists nothing -/
example : bestStrat (roundRat 6) #[(1 : Rat)/2, 1/4, 1/2]
    [tr "a" 0 0, tr "b" 0 1, tr "c" 0 2] = ["a", "c"] := by decide +kernel
example : bestStrat (roundRat 6) #[(0 : Rat), 0] [tr "a" 0 0, tr "b" 0 1] = ["a", "b"] := by
  decide +kernel
example : bestStrat (roundRat 6) #[(-1 : Rat)] [tr "a" 0 0] = [] := by decide +kernel
example : worstStratFrom (roundRat 6) (roundRat 6 1) #[(1 : Rat)/2, 1/4, 1/4]
    [tr "a" 0 0, tr "b" 0 1, tr "c" 0 2] = ["b", "c"] := by decide +kernel
example : worstStratRew (roundRat 6) #[(5 : Rat), 3, 3]
    [tr "a" 0 0, tr "b" 0 1, tr "c" 0 2] = ["b", "c"] := by decide +kernel

end CR.C04
