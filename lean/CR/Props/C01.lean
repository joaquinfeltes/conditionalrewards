/-
Property C01: the reachability probabilities reported by `solveReach`.

"For every well-formed game, the probability the solver reports for a state is the value of the
turn-based reachability game in which Player 1 maximises and Player 2 minimises the chance of
ever visiting a final state: final states report exactly 1, states with no path to a final
state report exactly 0, and every other state reports a number that never exceeds the true
value ..."

All theorems are about an arbitrary `.ok` outcome
`H : solveReach rnd thr fuel prune g = .ok r` (arbitrary rounding function, threshold, fuel,
pruning flag) over an arbitrary linearly ordered field `K`.  "The value" is characterised as
the least pre-fixed point of the Bellman operator `Bell` (Condon); see `reach_le_value`.

A successful run enters through `run_of_ok` only: its report is the iterate `iter g r.iters` of
`CR/Lemmas/VI.lean`, and each theorem below is the fact about every iterate, read at `r.iters`.
-/
import CR.Lemmas.VI
import Mathlib.Algebra.Order.Field.Rat
import Mathlib.Tactic.NormNum
import Mathlib.Tactic.Linarith

namespace CR.C01

open CR CR.VI

variable {K : Type} [Field K] [LinearOrder K] [IsStrictOrderedRing K]

/-- well-formedness: one row per state, targets in range, rows of probabilistic states are
probability distributions -/
def WF (g : Game K) : Prop :=
  g.tl.size = g.owners.size ∧
  (∀ s < g.owners.size, ∀ t ∈ g.tl.getD s [], t.tgt < g.owners.size) ∧
  (∀ s < g.owners.size, g.owners.getD s .prob = .prob →
    (∀ t ∈ g.tl.getD s [], 0 ≤ t.p) ∧ ((g.tl.getD s []).map (·.p)).sum = 1)

instance (g : Game K) : Decidable (WF g) := by unfold WF; infer_instance

/-- the Bellman operator of the reachability game (finals pinned to 1), written with the
model's own step function -/
def Bell (g : Game K) (x : Array K) (s : Nat) : K :=
  if g.finals.contains s then 1 else stepReach g.owners g.tl x s

/-- a pre-fixed point in `[0,∞)`: every state is at least its Bellman value -/
def PreFixed (g : Game K) (y : Array K) : Prop :=
  y.size = g.owners.size ∧ (∀ s < g.owners.size, 0 ≤ y.getD s 0) ∧
    ∀ s < g.owners.size, Bell g y s ≤ y.getD s 0

/-- `v` is the value of the game: the least pre-fixed point -/
def IsValue (g : Game K) (v : Array K) : Prop :=
  PreFixed g v ∧ ∀ y, PreFixed g y → ∀ s < g.owners.size, v.getD s 0 ≤ y.getD s 0

section Components
omit [IsStrictOrderedRing K]
variable {g : Game K} {v y : Array K}

theorem WF.size (h : WF g) : g.tl.size = g.owners.size := h.1

theorem WF.tgts (h : WF g) : ∀ s < g.owners.size, ∀ t ∈ g.tl.getD s [], t.tgt < g.owners.size := h.2.1

theorem WF.rowNonneg (h : WF g) : ∀ s < g.owners.size, RowNonneg g.owners g.tl s :=
  fun s hs ho => (h.2.2 s hs ho).1

theorem WF.rowSumOne (h : WF g) : ∀ s < g.owners.size, RowSumOne g.owners g.tl s :=
  fun s hs ho => (h.2.2 s hs ho).2

theorem PreFixed.size (h : PreFixed g y) : y.size = g.owners.size := h.1

theorem PreFixed.nonneg (h : PreFixed g y) : ∀ s < g.owners.size, 0 ≤ y.getD s 0 := h.2.1

theorem PreFixed.bell_le (h : PreFixed g y) : ∀ s < g.owners.size, Bell g y s ≤ y.getD s 0 := h.2.2

theorem IsValue.prefixed (h : IsValue g v) : PreFixed g v := h.1

theorem IsValue.least (h : IsValue g v) (hy : PreFixed g y) :
    ∀ s < g.owners.size, v.getD s 0 ≤ y.getD s 0 := h.2 y hy

theorem isValue_unique {v w : Array K} (hv : IsValue g v) (hw : IsValue g w) :
    ∀ s < g.owners.size, v.getD s 0 = w.getD s 0 :=
  fun s hs => le_antisymm (hv.least hw.prefixed s hs) (hw.least hv.prefixed s hs)

theorem Bell_final (x : Array K) {s : Nat} (h : s ∈ g.finals) : Bell g x s = 1 :=
  if_pos (List.contains_iff_mem.mpr h)

theorem PreFixed.one_le_final (h : PreFixed g y) {s : Nat} (hs : s < g.owners.size)
    (hf : s ∈ g.finals) : 1 ≤ y.getD s 0 :=
  Bell_final y hf ▸ h.bell_le s hs

theorem Bell_nonfinal (x : Array K) {s : Nat} (h : s ∉ g.finals) :
    Bell g x s = stepReach g.owners g.tl x s :=
  if_neg fun c => h (List.contains_iff_mem.mp c)

theorem Bell_congr (x y : Array K) (s : Nat)
    (h : ∀ t ∈ g.tl.getD s [], x.getD t.tgt 0 = y.getD t.tgt 0) : Bell g x s = Bell g y s := by
  by_cases hf : s ∈ g.finals
  · rw [Bell_final x hf, Bell_final y hf]
  · rw [Bell_nonfinal x hf, Bell_nonfinal y hf]; exact stepReach_congr x y s h

end Components

section BellOrder
variable {g : Game K}

theorem Bell_mono (hwf : WF g) {s : Nat} (hs : s < g.owners.size) (x y : Array K)
    (h : ∀ t ∈ g.tl.getD s [], x.getD t.tgt 0 ≤ y.getD t.tgt 0) : Bell g x s ≤ Bell g y s := by
  by_cases hf : s ∈ g.finals
  · rw [Bell_final x hf, Bell_final y hf]
  · rw [Bell_nonfinal x hf, Bell_nonfinal y hf]
    exact stepReach_mono (hwf.rowNonneg s hs) x y h

theorem Bell_nonneg (hwf : WF g) {s : Nat} (hs : s < g.owners.size) (x : Array K)
    (h : ∀ t ∈ g.tl.getD s [], 0 ≤ x.getD t.tgt 0) : 0 ≤ Bell g x s := by
  by_cases hf : s ∈ g.finals
  · rw [Bell_final x hf]; exact zero_le_one
  · rw [Bell_nonfinal x hf]; exact stepReach_nonneg (hwf.rowNonneg s hs) x h

theorem Bell_le_one (hwf : WF g) {s : Nat} (hs : s < g.owners.size) (x : Array K)
    (h : ∀ t ∈ g.tl.getD s [], x.getD t.tgt 0 ≤ 1) : Bell g x s ≤ 1 := by
  by_cases hf : s ∈ g.finals
  · rw [Bell_final x hf]
  · rw [Bell_nonfinal x hf]
    exact stepReach_le_one (hwf.rowNonneg s hs) (hwf.rowSumOne s hs) x h

theorem Bell_nonexp (hwf : WF g) (s : Nat) (hs : s < g.owners.size) (x y : Array K) (e : K)
    (he : 0 ≤ e) (h : ∀ t ∈ g.tl.getD s [], |x.getD t.tgt 0 - y.getD t.tgt 0| ≤ e) :
    |Bell g x s - Bell g y s| ≤ e := by
  by_cases hf : s ∈ g.finals
  · rw [Bell_final x hf, Bell_final y hf]; exact abs_sub_self_le _ he
  · rw [Bell_nonfinal x hf, Bell_nonfinal y hf]
    exact stepReach_nonexp (hwf.rowNonneg s hs) (hwf.rowSumOne s hs) x y e he h

end BellOrder

omit [IsStrictOrderedRing K] in
/-- Player 1: the maximum of the successor values clamped below by 0 -/
theorem step_p1 (o : Array Owner) (tl : Array (List (Tr K))) (x : Array K) (s : Nat)
    (h : o.getD s .prob = .p1) :
    0 ≤ stepReach o tl x s ∧
    (∀ t ∈ tl.getD s [], x.getD t.tgt 0 ≤ stepReach o tl x s) ∧
    (stepReach o tl x s = 0 ∨ ∃ t ∈ tl.getD s [], stepReach o tl x s = x.getD t.tgt 0) := by
  rw [stepReach_p1 o tl x s h]
  exact ⟨le_maxOver_init _ _ _, fun t ht => le_maxOver_mem _ _ _ t ht, maxOver_attained _ _ _⟩

omit [IsStrictOrderedRing K] in
/-- Player 2: the minimum of the successor values clamped above by 1 -/
theorem step_p2 (o : Array Owner) (tl : Array (List (Tr K))) (x : Array K) (s : Nat)
    (h : o.getD s .prob = .p2) :
    stepReach o tl x s ≤ 1 ∧
    (∀ t ∈ tl.getD s [], stepReach o tl x s ≤ x.getD t.tgt 0) ∧
    (stepReach o tl x s = 1 ∨ ∃ t ∈ tl.getD s [], stepReach o tl x s = x.getD t.tgt 0) := by
  rw [stepReach_p2 o tl x s h]
  exact ⟨minOver_le_init _ _ _, fun t ht => minOver_le_mem _ _ _ t ht, minOver_attained _ _ _⟩

set_option linter.unusedSectionVars false in
/-- probabilistic state: the weighted sum of the successor values -/
theorem step_prob (o : Array Owner) (tl : Array (List (Tr K))) (x : Array K) (s : Nat)
    (h : o.getD s .prob = .prob) :
    stepReach o tl x s = ((tl.getD s []).map (fun t => x.getD t.tgt 0 * t.p)).sum :=
  stepReach_prob o tl x s h

section
variable {rnd : K → Int} {thr : K} {fuel : Nat} {prune : Bool} {g : Game K} {r : ReachOut K}

omit [IsStrictOrderedRing K] in
/-- at every index, also out of range -/
theorem initVec_le_prefixed {y : Array K} (hy : PreFixed g y) (j : Nat) :
    (initVec g).getD j 0 ≤ y.getD j 0 := by
  refine getD_forall₂ (· ≤ ·) le_rfl (initVec_size g) hy.size (fun j hj => ?_) j
  by_cases hf : j ∈ g.finals
  · rw [getD_initVec_final hj hf]; exact hy.one_le_final hj hf
  · rw [getD_initVec_nonfinal hf]; exact hy.nonneg j hj

theorem iter_le_prefixed (hp : ∀ s < g.owners.size, RowNonneg g.owners g.tl s) {y : Array K}
    (hy : PreFixed g y) (k j : Nat) : (iter g k).getD j 0 ≤ y.getD j 0 :=
  iter_inv_pt (fun j v => v ≤ y.getD j 0) (initVec_le_prefixed hy) (fun x _ h s hso hs =>
    calc stepReach g.owners g.tl x s
        ≤ stepReach g.owners g.tl y s := stepReach_mono (hp s hs) x y fun _ _ => h _
      _ = Bell g y s := (Bell_nonfinal y (gameOrder_not_final hso)).symm
      _ ≤ y.getD s 0 := hy.bell_le s hs) k j

/-- a vector that still has its initial entries off the sweep order satisfies its Bellman equation
there: a final state is pinned to 1, and all successors of any other state off the order carry 0.
`hcl` always holds (`gameOrder_closed` in C01Path.lean); `hne` is needed because a Player-2 state
without a transition has step value 1 -/
theorem bell_off_order (hp : ∀ s < g.owners.size, RowNonneg g.owners g.tl s)
    (hne : ∀ s < g.owners.size, g.tl.getD s [] ≠ [])
    (hcl : ∀ s < g.owners.size, s ∉ gameOrder g → s ∉ g.finals →
      ∀ t ∈ g.tl.getD s [], t.tgt ∉ gameOrder g ∧ t.tgt ∉ g.finals) {x : Array K}
    (hx : ∀ j, j ∉ gameOrder g → x.getD j 0 = (initVec g).getD j 0) {s : Nat}
    (hs : s < g.owners.size) (hso : s ∉ gameOrder g) : Bell g x s = x.getD s 0 := by
  rw [hx s hso]
  by_cases hf : s ∈ g.finals
  · rw [Bell_final x hf, getD_initVec_final hs hf]
  · rw [Bell_nonfinal x hf, getD_initVec_nonfinal hf]
    refine stepReach_eq_zero (hp s hs) (fun _ => hne s hs) x fun t ht => ?_
    obtain ⟨h1, h2⟩ := hcl s hs hso hf t ht
    rw [hx _ h1, getD_initVec_nonfinal h2]

theorem bell_fixed_of_order (hp : ∀ s < g.owners.size, RowNonneg g.owners g.tl s)
    (hne : ∀ s < g.owners.size, g.tl.getD s [] ≠ [])
    (hcl : ∀ s < g.owners.size, s ∉ gameOrder g → s ∉ g.finals →
      ∀ t ∈ g.tl.getD s [], t.tgt ∉ gameOrder g ∧ t.tgt ∉ g.finals) {x : Array K}
    (hx : ∀ j, j ∉ gameOrder g → x.getD j 0 = (initVec g).getD j 0)
    (hfix : ∀ s ∈ gameOrder g, s < g.owners.size → stepReach g.owners g.tl x s = x.getD s 0) :
    ∀ s < g.owners.size, Bell g x s = x.getD s 0 := by
  intro s hs
  by_cases hso : s ∈ gameOrder g
  · rw [Bell_nonfinal x (gameOrder_not_final hso)]; exact hfix s hso hs
  · exact bell_off_order hp hne hcl hx hs hso

/-- what an `.ok` outcome of `solveReach` says: the sweep order is the search order, the report
is the `r.iters`-th iterate, the loop never ran (`thr ≥ 1`) or its last sweep reported a change
not above the threshold, and the game passed `check_game` / `init_states` -/
structure Run (g : Game K) (thr : K) (r : ReachOut K) : Prop where
  order : r.order = gameOrder g
  probs : r.probs = iter g r.iters
  stop : (r.iters = 0 ∧ ¬ 1 > thr) ∨ ∃ k, r.iters = k + 1 ∧ ¬ dres g k > thr
  size : g.tl.size = g.owners.size
  finals : ∀ f ∈ g.finals, f < g.owners.size
  rows : ∀ s < g.owners.size, g.tl.getD s [] ≠ []
  tgts : ∀ s < g.owners.size, ∀ t ∈ g.tl.getD s [], t.tgt < g.owners.size

omit [IsStrictOrderedRing K] in
theorem run_of_ok (H : solveReach rnd thr fuel prune g = .ok r) : Run g thr r := by
  obtain ⟨hcg, his, hvi, -, -, hord⟩ := solveReach_eq_ok.mp H
  obtain ⟨hsz, -, -, -, -, hfin⟩ := checkGame_eq_ok.mp hcg
  have hrow := (forall_mem_iff_getD []).mp (initStates_eq_ok.mp his)
  obtain ⟨k, hk1, hk2, hk3⟩ := viReach_spec hvi
  simp only [Nat.zero_add] at hk1 hk2
  refine ⟨hord, hk1 ▸ hk2, ?_, hsz, hfin, fun s hs => (hrow s (hsz ▸ hs)).1,
    fun s hs => (hrow s (hsz ▸ hs)).2⟩
  rcases hk3 with ⟨rfl, h⟩ | ⟨k', rfl, h⟩
  · exact .inl ⟨hk1, h⟩
  · exact .inr ⟨k', hk1, h⟩

/-- 1. one probability per state -/
theorem reach_size (H : solveReach rnd thr fuel prune g = .ok r) :
    r.probs.size = g.owners.size := by
  rw [(run_of_ok H).probs]; exact iter_size g _

/-- states outside the sweep order keep their initial value (all indices, also out of range) -/
theorem reach_untouched_init (H : solveReach rnd thr fuel prune g = .ok r) (s : Nat)
    (hs : s ∉ r.order) : r.probs.getD s 0 = (initVec g).getD s 0 := by
  obtain ⟨ho, hp, -⟩ := run_of_ok H
  rw [hp]; exact iter_untouched _ (ho ▸ hs)

/-- 2. final states report exactly 1 -/
theorem reach_final (H : solveReach rnd thr fuel prune g = .ok r) :
    ∀ f ∈ g.finals, r.probs.getD f 0 = 1 := by
  intro f hf
  have hR := run_of_ok H
  rw [hR.probs, iter_untouched _ fun h => gameOrder_not_final h hf,
    getD_initVec_final (hR.finals f hf) hf]

/-- 3. a state that is not in the sweep order reports 1 if it is final and 0 otherwise -/
theorem reach_untouched (H : solveReach rnd thr fuel prune g = .ok r) :
    ∀ s < g.owners.size, s ∉ r.order →
      r.probs.getD s 0 = if g.finals.contains s then 1 else 0 := by
  intro s hlt hs
  rw [reach_untouched_init H s hs, getD_initVec]
  simp only [hlt, true_and]

/-- 4. reported values are probabilities (uses only the third component of `WF`) -/
theorem reach_range (hwf : WF g) (H : solveReach rnd thr fuel prune g = .ok r) :
    ∀ s, 0 ≤ r.probs.getD s 0 ∧ r.probs.getD s 0 ≤ 1 := by
  rw [(run_of_ok H).probs]; exact iter_range hwf.rowNonneg hwf.rowSumOne _

/-- 5. the reported vector is below EVERY pre-fixed point of the Bellman operator
(uses only `p ≥ 0` on probabilistic rows from `WF`) -/
theorem reach_le_prefixed (hwf : WF g) (H : solveReach rnd thr fuel prune g = .ok r)
    (y : Array K) (hy : PreFixed g y) :
    ∀ s < g.owners.size, r.probs.getD s 0 ≤ y.getD s 0 := by
  rw [(run_of_ok H).probs]; exact fun s _ => iter_le_prefixed hwf.rowNonneg hy _ s

/-- 6. the reported vector never exceeds the value (the least pre-fixed point) -/
theorem reach_le_value (hwf : WF g) (H : solveReach rnd thr fuel prune g = .ok r)
    (v : Array K) (hv : IsValue g v) :
    ∀ s < g.owners.size, r.probs.getD s 0 ≤ v.getD s 0 :=
  reach_le_prefixed hwf H v hv.prefixed

/-- 6'. reported ≤ value ≤ any pre-fixed point -/
theorem reach_sandwich (hwf : WF g) (H : solveReach rnd thr fuel prune g = .ok r)
    (v : Array K) (hv : IsValue g v) (y : Array K) (hy : PreFixed g y) :
    ∀ s < g.owners.size, r.probs.getD s 0 ≤ v.getD s 0 ∧ v.getD s 0 ≤ y.getD s 0 :=
  fun s hs => ⟨reach_le_value hwf H v hv s hs, hv.least hy s hs⟩

/-- 7. under `WF`, every sweep of the run is pointwise ≥ its input: the iterates
`x₀ ≤ S x₀ ≤ S² x₀ ≤ …` increase, where `x₀` is the initial vector and `S` one sweep over
`r.order` (uses only `p ≥ 0`) -/
theorem reach_monotone_iterates (hwf : WF g) (H : solveReach rnd thr fuel prune g = .ok r)
    (k : Nat) (j : Nat) :
    ((sweepVec g.owners g.tl r.order)^[k] (initVec g)).getD j 0 ≤
      ((sweepVec g.owners g.tl r.order)^[k + 1] (initVec g)).getD j 0 := by
  rw [(run_of_ok H).order]; exact iter_le_succ hwf.rowNonneg k j

/-- 7'. the reported vector is itself a sub-solution on the sweep order:
`r.probs[s] ≤ Bell r.probs s` for every swept state -/
theorem reach_subsolution (hwf : WF g) (H : solveReach rnd thr fuel prune g = .ok r) :
    ∀ s ∈ r.order, s < g.owners.size → r.probs.getD s 0 ≤ Bell g r.probs s := by
  obtain ⟨ho, hp, -⟩ := run_of_ok H
  rw [ho, hp]
  intro s hs hlt
  rw [Bell_nonfinal _ (gameOrder_not_final hs)]
  exact iter_subSol hwf.rowNonneg _ s hs (by rw [iter_size]; exact hlt)

/-! What is known when the loop stops is `Run.stop`: the loop never ran, or `r.iters = k + 1` and
the last sweep reported `dres g k ≤ thr`; `dres g k` is non-negative, is attained as the change of
a coordinate, and bounds the Bellman residual of the result (`VI.dres_nonneg`, `dres_attained`,
`dres_residual`). -/

/-- on every `.ok` run the threshold is non-negative: either the loop never ran (`1 ≤ thr`) or the
last sweep reported a change `0 ≤ d ≤ thr` -/
theorem thr_nonneg_of_ok (H : solveReach rnd thr fuel prune g = .ok r) : 0 ≤ thr := by
  rcases (run_of_ok H).stop with ⟨_, h⟩ | ⟨k, _, h⟩
  · exact zero_le_one.trans (not_lt.mp h)
  · exact (dres_nonneg g k).trans (not_lt.mp h)

/-- 8. Bellman residual of a sweep result: if `r.probs` is the result of a sweep with reported
change `d`, every swept state is within `d` of its Bellman value
(uses `p ≥ 0` and `Σ p = 1` from `WF`: non-expansiveness of the step in the sup norm) -/
theorem reach_residual (hwf : WF g) (H : solveReach rnd thr fuel prune g = .ok r)
    (x : Array K) (d : K) (hsw : sweepReach g.owners g.tl r.order x = (r.probs, d)) :
    ∀ s ∈ r.order, s < g.owners.size → |Bell g r.probs s - r.probs.getD s 0| ≤ d := by
  intro s hs hlt
  have ho := (run_of_ok H).order
  have h1 : r.probs = (sweepFrom g.owners g.tl r.order (x, 0)).1 := by
    rw [← sweepReach_eq, hsw]
  have h2 : d = (sweepFrom g.owners g.tl r.order (x, 0)).2 := by
    rw [← sweepReach_eq, hsw]
  have hxn : x.size = g.owners.size := by
    rw [← reach_size H, h1, sweepFrom_size]
  rw [Bell_nonfinal _ (gameOrder_not_final (ho ▸ hs)), h1, h2]
  exact sweepFrom_residual r.order (ho ▸ gameOrder_nodup g) (x, 0)
    le_rfl s (hwf.rowNonneg s hlt) (hwf.rowSumOne s hlt) hs (by rw [hxn]; exact hlt)

/-- 8'. on `.ok` the Bellman residual of the reported vector is at most the threshold on every
swept state -/
theorem reach_residual_le_thr (hwf : WF g) (H : solveReach rnd thr fuel prune g = .ok r) :
    ∀ s ∈ r.order, s < g.owners.size → |Bell g r.probs s - r.probs.getD s 0| ≤ thr := by
  obtain ⟨ho, hp, hstop, -⟩ := run_of_ok H
  rw [ho, hp]
  intro s hs hlt
  rw [Bell_nonfinal _ (gameOrder_not_final hs)]
  rcases hstop with ⟨_, h⟩ | ⟨k, hk, h⟩
  · -- the loop never ran: both numbers are in [0,1] and `1 ≤ thr`
    have a := iter_range hwf.rowNonneg hwf.rowSumOne r.iters
    exact (abs_sub_le_of_nonneg_of_le
      (stepReach_nonneg (hwf.rowNonneg s hlt) _ fun _ _ => (a _).1)
      (stepReach_le_one (hwf.rowNonneg s hlt) (hwf.rowSumOne s hlt) _ fun _ _ => (a _).2)
      (a s).1 (a s).2).trans (not_lt.mp h)
  · rw [hk]
    exact (dres_residual k hs hlt (hwf.rowNonneg s hlt) (hwf.rowSumOne s hlt)).trans (not_lt.mp h)

/-- 9. if the last sweep reported change 0 and the complement of `r.order ∪ finals` is closed
under successors (which is what "`r.order` is exactly the set of non-final states with a path
to a final state" gives), then the reported vector is a fixed point of the Bellman operator, a
pre-fixed point, and equal to the value -/
theorem reach_exact_of_zero_diff (hwf : WF g) (H : solveReach rnd thr fuel prune g = .ok r)
    (x : Array K) (hsw : sweepReach g.owners g.tl r.order x = (r.probs, 0))
    (hclosed : ∀ s < g.owners.size, s ∉ r.order → s ∉ g.finals →
      ∀ t ∈ g.tl.getD s [], t.tgt ∉ r.order ∧ t.tgt ∉ g.finals) :
    (∀ s < g.owners.size, Bell g r.probs s = r.probs.getD s 0) ∧ PreFixed g r.probs ∧
      ∀ v, IsValue g v → ∀ s < g.owners.size, r.probs.getD s 0 = v.getD s 0 := by
  have hR := run_of_ok H
  have hfix : ∀ s < g.owners.size, Bell g r.probs s = r.probs.getD s 0 := by
    refine bell_fixed_of_order hwf.rowNonneg hR.rows (hR.order ▸ hclosed)
      (fun j hj => reach_untouched_init H j (hR.order ▸ hj)) fun s hs hlt => ?_
    have := reach_residual hwf H x 0 hsw s (hR.order ▸ hs) hlt
    rw [Bell_nonfinal _ (gameOrder_not_final hs)] at this
    exact eq_of_abs_sub_nonpos this
  have hpre : PreFixed g r.probs :=
    ⟨reach_size H, fun s _ => (reach_range hwf H s).1, fun s hs => le_of_eq (hfix s hs)⟩
  exact ⟨hfix, hpre, fun v hv s hs =>
    le_antisymm (reach_le_value hwf H v hv s hs) (hv.least hpre s hs)⟩

end

section NonVacuity

/-- three states: 0 probabilistic (stays with 3/4, to the final state 1 with 1/8, to the sink 2
with 1/8), 1 final and absorbing, 2 an absorbing sink -/
def exGame : Game Rat where
  rewards := #[0, 0, 0]
  owners := #[.prob, .prob, .prob]
  tl := #[[⟨"a", 3/4, 0⟩, ⟨"a", 1/8, 1⟩, ⟨"a", 1/8, 2⟩], [⟨"a", 1, 1⟩], [⟨"a", 1, 2⟩]]
  finals := [1]

/-- the hypotheses of the theorems are satisfiable: the cyclic example game is well-formed -/
example : WF exGame := by decide +kernel

private theorem exPreFixed : PreFixed exGame #[1/2, 1, 0] := by unfold PreFixed; decide +kernel

/-- `[1/2, 1, 0]` is a pre-fixed point of the example game -/
example : PreFixed exGame #[1/2, 1, 0] := exPreFixed

/-- `[1/2, 1, 0]` is the max–min value of the example game -/
theorem exGame_value : IsValue exGame #[1/2, 1, 0] := by
  refine ⟨exPreFixed, fun y hy s hs => ?_⟩
  -- the three constraints a pre-fixed point `y` of this game satisfies
  have h0 : 0 + y.getD 0 0 * (3/4) + y.getD 1 0 * (1/8) + y.getD 2 0 * (1/8) ≤ y.getD 0 0 :=
    hy.bell_le 0 (by decide)
  have h1 : (1 : Rat) ≤ y.getD 1 0 := hy.bell_le 1 (by decide)
  have h2 : 0 ≤ y.getD 2 0 := hy.nonneg 2 (by decide)
  have hs' : s < 3 := hs
  obtain rfl | rfl | rfl : s = 0 ∨ s = 1 ∨ s = 2 := by omega
  · show (1/2 : Rat) ≤ _; linarith
  · exact h1
  · exact h2

/-- ... and it is the value (least pre-fixed point) of the example game, so `IsValue` is
satisfiable too -/
example : IsValue exGame #[1/2, 1, 0] := exGame_value

/-! the hypothesis `H` is satisfiable: with threshold 1/2 the solver stops after one sweep on the
example game and reports `[1/8, 1, 0]` (below the value `[1/2, 1, 0]`), sweep order `[0]` -/

theorem exGame_order :
    reverseDfs (exGame.tl.toList.map (fun row => row.map (·.tgt))) exGame.finals = [0] :=
  RdfsLemmas.reverseDfs_eq_of 20 (all := [0, 1]) (by decide +kernel) (by decide) (by decide)

private theorem exOrder : gameOrder exGame = [0] := exGame_order

private theorem exCheck : checkGame exGame = .ok () := by decide +kernel

private theorem exInit : initStates exGame = .ok () := by decide +kernel

private theorem exVi :
    viReach exGame.owners exGame.tl [0] (1/2) 10 1 (initVec exGame) 0 = .ok (#[1/8, 1, 0], 1) := by
  decide +kernel

example : ∃ r, solveReach (fun _ => 0) (1/2 : Rat) 10 false exGame = .ok r ∧
    r.probs = #[1/8, 1, 0] ∧ r.iters = 1 ∧ r.order = [0] := by
  refine ⟨⟨#[1/8, 1, 0], reachStrategies (fun _ => 0) exGame.owners exGame.tl #[1/8, 1, 0], 1, [0]⟩,
    solveReach_eq_ok.mpr ⟨exCheck, exInit, ?_, rfl, rfl, exGame_order.symm⟩, rfl, rfl, rfl⟩
  rw [exGame_order]
  exact exVi

end NonVacuity

end CR.C01
