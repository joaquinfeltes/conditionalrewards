/-
C08: the generated games A, B, C encode the Roborta board rules faithfully.

`enc` (specification: `CR/Spec/Roborta.lean`) is a functional bisimulation from the
specification's situations, started in `light 0 0`, onto the part of the generated game
(model: `CR/Model/Gen.lean`) reachable from state 0, with equal action labels, probabilities
(in the same order), owners, rewards and final states.  Helper lemmas: `CR/Lemmas/Grid.lean`.
-/
import CR.Lemmas.Grid

namespace CR.C08

open CR CR.Gen CR.Roborta CR.GridLemmas

/-- the number of states of the generated game of a variant (statement vocabulary only) -/
abbrev N (v : Variant) (L W : Nat) : Nat :=
  match v with
  | .A => 4 * (L * W) + 2
  | .B => 7 * (L * W) + 2
  | .C => 10 * (L * W) + 2

/-- `N` in the form `4*L*W+2`, `7*L*W+2`, `10*L*W+2` -/
theorem N_eq (v : Variant) (L W : Nat) :
    N v L W = match v with
      | .A => 4 * L * W + 2
      | .B => 7 * L * W + 2
      | .C => 10 * L * W + 2 := by
  cases v <;> simp only [N, Nat.mul_assoc]

theorem N_eq_nGroups (v : Variant) (L W : Nat) : N v L W = nGroups v * (L * W) + 2 := by
  cases v <;> rfl

theorem N_sub_one (v : Variant) (L W : Nat) : N v L W - 1 = enc v L W .win := by cases v <;> rfl

theorem N_sub_two (v : Variant) (L W : Nat) : N v L W - 2 = enc v L W .lose := by cases v <;> rfl

/-- the numbering is injective on the valid situations: `enc s` is the place of `s` in
`GridLemmas.states` -/
theorem enc_injective (v : Variant) (L W : Nat) (b : Board) (s s' : RState)
    (hs : Valid v L W b s) (hs' : Valid v L W b s') (h : enc v L W s = enc v L W s') : s = s' := by
  rw [← dec_enc hs, ← dec_enc hs', h]

section
variable {α : Type} [Sub α] [OfNat α 0] [OfNat α 1]

/-- sizes of the generated game; the only final state is the winning state -/
theorem gen_sizes (v : Variant) (L W : Nat) (b : Board) (hb : BoardOK L W b) (q : Params α) :
    (genGame v L W b q).tl.length = N v L W ∧
    (genGame v L W b q).owners.length = N v L W ∧
    (genGame v L W b q).rewards.length = N v L W ∧
    (genGame v L W b q).finals = [enc v L W .win] := by
  rw [N_eq_nGroups]
  exact ⟨genGame_tl_length hb q, genGame_owners_length v L W b q, genGame_rewards_length hb q,
    genGame_finals v L W b q⟩

/-- one step of the bisimulation: the row of state `enc s` is the image of the rules of `s`
(same labels, same probabilities, same order), owner, reward and finality agree -/
theorem gen_bisim_step (v : Variant) (L W : Nat) (b : Board) (hb : BoardOK L W b) (q : Params α)
    (s : RState) (hs : Valid v L W b s) :
    enc v L W s < N v L W ∧
    (genGame v L W b q).tl.getD (enc v L W s) []
      = (rules v L W b q s).map
          (fun x => ({ act := x.act, p := x.p, tgt := enc v L W x.tgt } : Tr α)) ∧
    (genGame v L W b q).owners.getD (enc v L W s) .prob = owner s ∧
    (genGame v L W b q).rewards.getD (enc v L W s) 0 = reward b s ∧
    (enc v L W s ∈ (genGame v L W b q).finals ↔ s = .win) := by
  refine ⟨?_, tl_bisim hb q hs, owners_bisim q hs, rewards_bisim hb q hs, ?_⟩
  · rw [N_eq_nGroups]; exact enc_lt hs
  · rw [genGame_finals, List.mem_singleton]
    constructor
    · intro h
      exact enc_injective v L W b s .win hs trivial h
    · rintro rfl; rfl

/-- the valid situations are closed under the rules (so every situation reachable from
`light 0 0` is valid) -/
theorem valid_closed (v : Variant) (L W : Nat) (b : Board) (hb : BoardOK L W b) (q : Params α)
    (s : RState) (hs : Valid v L W b s) : ∀ x ∈ rules v L W b q s, Valid v L W b x.tgt :=
  rules_valid hb.W_pos q hs

end

/-- the initial situation is valid and is state 0 -/
theorem enc_init (v : Variant) (L W : Nat) (b : Board) (hb : BoardOK L W b) :
    enc v L W (.light 0 0) = 0 ∧ Valid v L W b (.light 0 0) :=
  ⟨by cases v <;> simp, hb.L_pos, hb.W_pos⟩

/-! ## Non-vacuity: a 2×1 board (one column: left and right wrap onto the same tile) and a
1×2 board, over `Rat` -/

/-- 2 rows × 1 column: a both-arrows loose tile above a down-only tile -/
def b21 : Board := { moves := [[1], [3]], rewards := [[2], [0]], loose := [[1], [0]] }

/-- 1 row × 2 columns: a left-only tile and a right-only loose tile -/
def b12 : Board := { moves := [[0, 2]], rewards := [[1, 3]], loose := [[0, 1]] }

def q0 : Params Rat := { pTile := 1/10, pRobot := 1/5, pLight := 3/10 }

theorem b21_ok : BoardOK 2 1 b21 := by unfold BoardOK; decide
theorem b12_ok : BoardOK 1 2 b12 := by unfold BoardOK; decide

example : BoardOK 2 1 b21 := b21_ok
example : BoardOK 1 2 b12 := b12_ok

/-- game A on the 2×1 board, all 10 rows (`Left` and `Right` of the single column both lead to
state 6 = `land 0 0`; the `lr` row of the down-only tile is the unreachable `Etha` row) -/
example : (gameA 2 1 b21 (1/10 : Rat)).tl =
    [ [act "Green" 2, act "Yellow" 4], [act "Green" 3],
      [act "Down" 7], [act "Down" 9],
      [act "Left" 6, act "Right" 6], [act "Etha" 0],
      [pr (1/10) 8, pr (1 - 1/10) 0], [pr 1 1],
      [pr 1 8], [pr 1 9] ] := by rfl

example : (1 - 1/10 : Rat) = 9/10 := by decide +kernel

/-- game B on the 1×2 board, all 16 rows -/
example : (gameB 1 2 b12 (1/10 : Rat) (1/5)).tl =
    [ [act "Green" 2, act "Yellow" 4], [act "Green" 3, act "Yellow" 5],
      [act "Down" 8], [act "Down" 9],
      [act "Left" 10], [act "Right" 13],
      [pr 1 0], [pr (1/10) 14, pr (1 - 1/10) 1],
      [pr (1/5) 6, pr (1 - 1/5) 15], [pr (1/5) 7, pr (1 - 1/5) 15],
      [pr (1/5) 6, pr (1 - 1/5) 7], [pr (1/5) 7, pr (1 - 1/5) 6],
      [pr (1/5) 6, pr (1 - 1/5) 7], [pr (1/5) 7, pr (1 - 1/5) 6],
      [pr 1 14], [pr 1 15] ] := by rfl

/-- game C on the 2×1 board: the light-failure rows and the free-choice rows -/
example : (gameC 2 1 b21 (1/10 : Rat) (1/5) (3/10)).tl.getD 18 [] =
    [pr (3/10) 6, pr (1 - 3/10) 4] := by rfl
example : (gameC 2 1 b21 (1/10 : Rat) (1/5) (3/10)).tl.getD 6 [] =
    [act "Down" 10, act "Left" 12, act "Right" 14] := by rfl
example : (gameC 2 1 b21 (1/10 : Rat) (1/5) (3/10)).tl.length = 22 := by rfl

/-- the specification on the one-column board: left and right wrap onto the tile itself -/
example : rules .A 2 1 b21 q0 (.lr 0 0) = [a "Left" (.land 0 0), a "Right" (.land 0 0)] := by rfl
example : rules .B 1 2 b12 q0 (.tryLeft 0 0) = [c (1/5) (.land 0 0), c (1 - 1/5) (.land 0 1)] := by
  rfl

/-- the hypotheses of `gen_bisim_step` are satisfiable, in all three variants -/
example : Valid .A 2 1 b21 (.lr 0 0) := by simp [Valid, b21, Board.mv]
example : Valid .B 1 2 b12 (.tryRight 0 1) := by simp [Valid]
example : Valid .C 2 1 b21 (.lightY 0 0) := by simp [Valid, b21, Board.mv]
/-- Yellow is never shown on the down-only tile -/
example : ¬ Valid .C 2 1 b21 (.lightY 1 0) := by simp [Valid, b21, Board.mv]

/-- an instance of the step theorem on the one-column board -/
example : (genGame .A 2 1 b21 q0).tl.getD (enc .A 2 1 (.lr 0 0)) []
    = (rules .A 2 1 b21 q0 (.lr 0 0)).map
        (fun x => ({ act := x.act, p := x.p, tgt := enc .A 2 1 x.tgt } : Tr Rat)) :=
  (gen_bisim_step .A 2 1 b21 b21_ok q0 (.lr 0 0)
    (by simp [Valid, b21, Board.mv])).2.1

end CR.C08
