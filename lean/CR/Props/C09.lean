/-
C09: malformed games are rejected with ValueError, never solved
(model: `CR/Model/Validate.lean`, `CR/Model/Batch.lean`; helper lemmas: `CR/Lemmas/Validate.lean`).

`Err.malformed rule` is the model of every `ValueError` raised by the validation
(`Err.noSolution` is the other `ValueError`, raised by the solver proper).
-/
import CR.Lemmas.Validate

namespace CR.C09

open CR CR.Py CR.Batch CR.ValidateLemmas

/-- 1. a game obeying every documented rule passes the validation -/
theorem validate_sound (g : PyGame) (h : DocWellFormed g) : validate g = .ok () :=
  (validate_ok_iff g).2 h

/-- 2. a game breaking any documented rule, at any state / transition / tuple slot, is rejected
with a `ValueError` -/
theorem validate_complete (g : PyGame) (h : ¬ DocWellFormed g) :
    ∃ rule, validate g = .error (.malformed rule) := by
  cases hv : validate g with
  | error e =>
    obtain ⟨r, rfl⟩ := validate_error g e hv
    exact ⟨r, rfl⟩
  | ok u => cases u; exact absurd ((validate_ok_iff g).1 hv) h

/-- 3. the validation raises nothing but `ValueError`s -/
theorem validate_errors_are_value_errors (g : PyGame) (e : Err) (h : validate g = .error e) :
    ∃ rule, e = .malformed rule :=
  validate_error g e h

/-- 1–3 together -/
theorem validate_iff (g : PyGame) : validate g = .ok () ↔ DocWellFormed g :=
  validate_ok_iff g

/-- 4a. a result is only ever returned for a documented game -/
theorem no_result_without_validate (thr : Float) (fuel : Nat) (prune : Bool) (g : PyGame)
    (out : SolveOut Float) (h : solvePy thr fuel prune g = .ok out) : DocWellFormed g := by
  rw [solvePy_eq] at h
  cases hv : validate g with
  | error e => rw [hv] at h; cases h
  | ok u => cases u; exact (validate_ok_iff g).1 hv

/-- 4b. solving a game that breaks a documented rule raises `ValueError`, pruned or not -/
theorem malformed_raises (thr : Float) (fuel : Nat) (prune : Bool) (g : PyGame)
    (h : ¬ DocWellFormed g) : ∃ rule, solvePy thr fuel prune g = .error (.malformed rule) := by
  obtain ⟨r, hr⟩ := validate_complete g h
  exact ⟨r, by rw [solvePy_eq, hr]⟩

/-- 4b for both values of `prune` at once -/
theorem malformed_raises_both (thr : Float) (fuel : Nat) (g : PyGame) (h : ¬ DocWellFormed g) :
    (∃ rule, solvePy thr fuel true g = .error (.malformed rule)) ∧
    (∃ rule, solvePy thr fuel false g = .error (.malformed rule)) :=
  ⟨malformed_raises thr fuel true g h, malformed_raises thr fuel false g h⟩

section positions
variable (thr : Float) (fuel : Nat) (prune : Bool) (g : PyGame)

/-! 5. 4b rule by rule: each way of breaking a documented rule that the property names, at any position. -/

/-- list lengths disagree -/
theorem lengths_disagree
    (h : g.tl.length ≠ g.players.length ∨ g.rewards.length ≠ g.players.length) :
    ∃ rule, solvePy thr fuel prune g = .error (.malformed rule) :=
  malformed_raises thr fuel prune g (fun hw => h.elim (fun h => h hw.lengths.1) (fun h => h hw.lengths.2))

/-- a negative reward, anywhere in the list -/
theorem negative_reward (r : PyNum) (hr : r ∈ g.rewards) (hneg : r.isNeg = true) :
    ∃ rule, solvePy thr fuel prune g = .error (.malformed rule) :=
  malformed_raises thr fuel prune g (fun hw => by
    have := hw.rewards_nonneg r hr; rw [hneg] at this; cases this)

/-- an unknown player, anywhere in the list -/
theorem unknown_player (p : String) (hp : p ∈ g.players)
    (h : p ≠ "Player 1" ∧ p ≠ "Player 2" ∧ p ≠ "Probabilistic") :
    ∃ rule, solvePy thr fuel prune g = .error (.malformed rule) :=
  malformed_raises thr fuel prune g (fun hw => by
    rcases hw.players_known p hp with h' | h' | h'
    · exact h.1 h'
    · exact h.2.1 h'
    · exact h.2.2 h')

/-- a final state outside `0..n-1` (`n` and `-1` included), anywhere in the list -/
theorem final_out_of_range (f : Int) (hf : f ∈ g.finals)
    (h : f < 0 ∨ (g.players.length : Int) ≤ f) :
    ∃ rule, solvePy thr fuel prune g = .error (.malformed rule) :=
  malformed_raises thr fuel prune g (fun hw => by
    have := hw.finals_range f hf; omega)

/-- no final state -/
theorem no_final_state (h : g.finals = []) :
    ∃ rule, solvePy thr fuel prune g = .error (.malformed rule) :=
  malformed_raises thr fuel prune g (fun hw => hw.finals_ne h)

/-- a state without transitions (`None`, `[]`, `()`, `0`, `""`, `{}` … — anything falsy) -/
theorem state_without_transitions (k : Nat) (hk : k < g.players.length)
    (h : truthy (g.tl.getD k .none) = false) :
    ∃ rule, solvePy thr fuel prune g = .error (.malformed rule) :=
  malformed_raises thr fuel prune g (fun hw => by
    obtain ⟨xs, hxs, hne, _⟩ := hw.row hk
    rw [hxs, (truthy_list xs).2 hne] at h
    cases h)

/-- a state whose transitions are not a list -/
theorem transitions_not_a_list (k : Nat) (hk : k < g.players.length)
    (h : ∀ xs, g.tl.getD k .none ≠ .list xs) :
    ∃ rule, solvePy thr fuel prune g = .error (.malformed rule) :=
  malformed_raises thr fuel prune g (fun hw =>
    let ⟨xs, hxs, _⟩ := hw.row hk
    h xs hxs)

/-- an entry of a transition list that is not a 2-tuple -/
theorem not_a_two_tuple (k : Nat) (hk : k < g.players.length) (xs : List PyVal)
    (hxs : g.tl.getD k .none = .list xs) (e : PyVal) (he : e ∈ xs)
    (h : ∀ a b, e ≠ .tuple [a, b]) :
    ∃ rule, solvePy thr fuel prune g = .error (.malformed rule) :=
  malformed_raises thr fuel prune g (fun hw =>
    let ⟨a, b, _, hab, _⟩ := hw.entry hk hxs he
    h a b hab)

/-- a non-string action on a player state -/
theorem non_string_action (k : Nat) (hk : k < g.players.length)
    (hp : g.players.getD k "" ≠ "Probabilistic") (xs : List PyVal)
    (hxs : g.tl.getD k .none = .list xs) (a b : PyVal) (he : .tuple [a, b] ∈ xs)
    (h : isStr a = false) :
    ∃ rule, solvePy thr fuel prune g = .error (.malformed rule) :=
  malformed_raises thr fuel prune g (fun hw =>
    Bool.false_ne_true (h.symm.trans ((hw.pair hk hxs he).2.1 hp)))

/-- a non-numeric probability on a probabilistic state -/
theorem non_numeric_probability (k : Nat) (hk : k < g.players.length)
    (hp : g.players.getD k "" = "Probabilistic") (xs : List PyVal)
    (hxs : g.tl.getD k .none = .list xs) (a b : PyVal) (he : .tuple [a, b] ∈ xs)
    (h : isNumber a = false) :
    ∃ rule, solvePy thr fuel prune g = .error (.malformed rule) :=
  malformed_raises thr fuel prune g (fun hw =>
    Bool.false_ne_true (h.symm.trans ((hw.pair hk hxs he).1 hp)))

/-- a non-integer successor -/
theorem non_integer_successor (k : Nat) (hk : k < g.players.length) (xs : List PyVal)
    (hxs : g.tl.getD k .none = .list xs) (a b : PyVal) (he : .tuple [a, b] ∈ xs)
    (h : asInt b = none) :
    ∃ rule, solvePy thr fuel prune g = .error (.malformed rule) :=
  malformed_raises thr fuel prune g (fun hw =>
    let ⟨_, hi, _⟩ := (hw.pair hk hxs he).2.2
    nomatch h.symm.trans hi)

/-- a successor index outside `0..n-1` (`n` and `-1` included), at any state and any position
of its transition list -/
theorem bad_successor_index (k : Nat) (hk : k < g.players.length) (xs : List PyVal)
    (hxs : g.tl.getD k .none = .list xs) (a : PyVal) (i : Int) (he : .tuple [a, .int i] ∈ xs)
    (h : i < 0 ∨ (g.players.length : Int) ≤ i) :
    ∃ rule, solvePy thr fuel prune g = .error (.malformed rule) :=
  malformed_raises thr fuel prune g (fun hw => by
    obtain ⟨i', hi, h0, hn⟩ := (hw.pair hk hxs he).2.2
    cases hi
    omega)

end positions

/-- 6. for a game breaking a documented rule the batch runner does not crash: the pruned entry
carries the `ValueError` message, the unpruned entry is marked "not solved", and neither
carries a result -/
theorem batch_records (thr : Float) (fuel : Nat) (g : PyGame) (h : ¬ DocWellFormed g) :
    ∃ rule e1 e2, runOne thr fuel g = .ok (e1, e2) ∧
      e1.msg = .error (.malformed rule) ∧ e2.msg = .notSolved ∧ e1.out = none ∧ e2.out = none := by
  obtain ⟨rule, hr⟩ := malformed_raises thr fuel true g h
  exact ⟨rule, _, _, runOne_failure thr fuel g _ hr rfl, rfl, rfl, rfl, rfl⟩

/-- a well-formed 3-state game; `s` is the successor of the last transition of state 1 -/
def demo (s : Int) : PyGame :=
  { rewards := [.int 1, .float 2.5, .int 0]
    players := ["Player 1", "Probabilistic", "Player 2"]
    tl := [.list [.tuple [.str "a", .int 1], .tuple [.str "b", .bool true]],
           .list [.tuple [.float 0.5, .int 0], .tuple [.int 1, .int s]],
           .list [.tuple [.str "stay", .int 2]]]
    finals := [2] }

theorem demo_valid : validate (demo 2) = .ok () := by decide +kernel

example : DocWellFormed (demo 2) := (validate_iff _).1 demo_valid
example : DocWellFormed (demo 0) := (validate_iff _).1 (by decide +kernel)

/-- boundary: successor index `n = 3` -/
example : ¬ DocWellFormed (demo 3) :=
  not_wf_of_error (e := .malformed "next state out of range") (by decide +kernel)

/-- boundary: successor index `-1` -/
example : ¬ DocWellFormed (demo (-1)) :=
  not_wf_of_error (e := .malformed "next state out of range") (by decide +kernel)

example (thr : Float) (fuel : Nat) (prune : Bool) :
    ∃ rule, solvePy thr fuel prune (demo 3) = .error (.malformed rule) :=
  bad_successor_index thr fuel prune (demo 3) 1 (by decide) _ rfl (.int 1) 3
    (by simp) (Or.inr (by decide))

end CR.C09
