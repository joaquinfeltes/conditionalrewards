/-
Property C14, exact form: the two diagnostic outputs of `solve` when the last sweep of the reward
loop changed nothing.

`C14.diag_consistency_*` bound the distance between the reported diagnostics and their update
equations by the threshold.  If the last sweep reported change `0`, the bound is `0`: at every
state the reported triple (expected reward, "rewards under minimal reachability", "probabilities
under minimal reward") is an EXACT fixed point of the model's step function `stepRew`, and the
closed forms of `C14.diag_step_*` become equations between reported numbers — in particular the
diagnostics of a player state follow the REPORTED final action.  Arbitrary linearly ordered
field `K`, rounding function, threshold, fuel and pruning flag; `hwf` is not needed — a zero-change
sweep is a fixed point whatever the probabilities, cf. `sweepRew_zero_fixed`.
-/
import CR.Props.C14
import CR.Props.C02

namespace CR.C14

open CR CR.VI CR.Rew

variable {K : Type} [Field K] [LinearOrder K] [IsStrictOrderedRing K]
variable {rnd : K → Int} {thr : K} {fuel : Nat} {prune : Bool} {g : Game K} {out : SolveOut K}

/-- **C14, exact form.**  If the reported vectors are the result of a sweep with reported change
`0` (started from any vectors `v`; these are then the reported ones), the
reported triple of every state is an exact fixed point of the step function: recomputing the
state's three quantities from the reported vectors gives the reported values again -/
theorem diag_fixed_of_exact (hwf : NodesWF g.owners out.nodes)
    (H : solve rnd thr fuel prune g = .ok out) (v : RewVecs K)
    (hsw : sweepRew rnd g.owners g.rewards out.nodes out.probs v =
      .ok ({ er := out.rewards, ermr := out.rewMinReach, pmr := out.probMinRew }, 0))
    (s : Nat) (hs : s < g.owners.size) :
    stepRew rnd g.owners g.rewards out.nodes out.probs
        { er := out.rewards, ermr := out.rewMinReach, pmr := out.probMinRew } s =
      .ok (out.rewards.getD s 0, out.rewMinReach.getD s 0, out.probMinRew.getD s 0) :=
  solve_zero_fixed H hsw s hs

/-- the hypothesis in the form "`w` is the reported triple and `sweepRew … w = .ok (w, 0)`" -/
theorem diag_fixed_of_exact' (hwf : NodesWF g.owners out.nodes)
    (H : solve rnd thr fuel prune g = .ok out) (w : RewVecs K)
    (hw : w = { er := out.rewards, ermr := out.rewMinReach, pmr := out.probMinRew })
    (hsw : sweepRew rnd g.owners g.rewards out.nodes out.probs w = .ok (w, 0))
    (s : Nat) (hs : s < g.owners.size) :
    stepRew rnd g.owners g.rewards out.nodes out.probs w s =
      .ok (out.rewards.getD s 0, out.rewMinReach.getD s 0, out.probMinRew.getD s 0) := by
  subst hw
  exact diag_fixed_of_exact hwf H _ hsw s hs

/-- **Player 1, the diagnostics follow the REPORTED action.**  For a Player-1 state whose
reported final strategy is the single action `a`, carried by exactly one transition `u` of the
state's conditioned row, and a monotone rounding function: the state's "rewards under minimal
reachability" are those of `u`'s target plus the state's reward, and its "probabilities under
minimal reward" are those of `u`'s target — exactly -/
theorem diag_fixed_p1_reported (hwf : NodesWF g.owners out.nodes)
    (hmono : ∀ x y, x ≤ y → rnd x ≤ rnd y)
    (H : solve rnd thr fuel prune g = .ok out) (v : RewVecs K)
    (hsw : sweepRew rnd g.owners g.rewards out.nodes out.probs v =
      .ok ({ er := out.rewards, ermr := out.rewMinReach, pmr := out.probMinRew }, 0))
    (s : Nat) (ho : g.owners.getD s .prob = .p1) (a : String)
    (hfin : out.finalStrat.getD s none = some [a]) (u : Tr K)
    (huniq : (out.nodes.getD s []).filter (fun t => t.act == a) = [u]) :
    out.rewMinReach.getD s 0 = out.rewMinReach.getD u.tgt 0 + g.rewards.getD s 0 ∧
    out.probMinRew.getD s 0 = out.probMinRew.getD u.tgt 0 := by
  have hs : s < g.owners.size := owner_lt_size (by rw [ho]; simp)
  have hst := diag_fixed_of_exact hwf H v hsw s hs
  have hbest : bestStrat rnd out.rewards (out.nodes.getD s []) = [a] :=
    Option.some.inj ((finalStrat_p1 H ho).symm.trans hfin)
  exact diag_step_p1_reported rnd g.owners g.rewards out.nodes out.probs hmono
    { er := out.rewards, ermr := out.rewMinReach, pmr := out.probMinRew } s ho a hbest u huniq
    _ _ _ hst

/-- **Player 2, "probabilities under minimal reward" follow the REPORTED action.**  For a
Player-2 state whose reported final strategy is the single action `a`, carried by exactly one
transition `u` of the state's conditioned row, and a monotone rounding function: the state's
expected reward is that of `u`'s target plus the state's reward and its "probabilities under
minimal reward" are those of `u`'s target — exactly -/
theorem diag_fixed_p2_reported (hwf : NodesWF g.owners out.nodes)
    (hmono : ∀ x y, x ≤ y → rnd x ≤ rnd y)
    (H : solve rnd thr fuel prune g = .ok out) (v : RewVecs K)
    (hsw : sweepRew rnd g.owners g.rewards out.nodes out.probs v =
      .ok ({ er := out.rewards, ermr := out.rewMinReach, pmr := out.probMinRew }, 0))
    (s : Nat) (ho : g.owners.getD s .prob = .p2) (a : String)
    (hfin : out.finalStrat.getD s none = some [a]) (u : Tr K)
    (huniq : (out.nodes.getD s []).filter (fun t => t.act == a) = [u]) :
    out.rewards.getD s 0 = out.rewards.getD u.tgt 0 + g.rewards.getD s 0 ∧
    out.probMinRew.getD s 0 = out.probMinRew.getD u.tgt 0 := by
  have hs : s < g.owners.size := owner_lt_size (by rw [ho]; simp)
  have hst := diag_fixed_of_exact hwf H v hsw s hs
  have hworst : worstStratRew rnd out.rewards (out.nodes.getD s []) = [a] :=
    Option.some.inj ((finalStrat_p2 H ho).symm.trans hfin)
  exact diag_step_p2_reported rnd g.owners g.rewards out.nodes out.probs hmono
    { er := out.rewards, ermr := out.rewMinReach, pmr := out.probMinRew } s ho a hworst u huniq
    _ _ _ hst

/-- **Player 2, "rewards under minimal reachability" in closed form.**  For a Player-2 state
that kept transitions, the reported value is `_expected_rewards_min_reach` evaluated at the
reported vector: `0` if no transition carries an action of the state's REACHABILITY arg-min
list, otherwise the state's reward plus the least reported value among the targets of those
transitions (`C14.p2RewMinReach_spec`) — exactly -/
theorem diag_fixed_p2_ermr (hwf : NodesWF g.owners out.nodes)
    (H : solve rnd thr fuel prune g = .ok out) (v : RewVecs K)
    (hsw : sweepRew rnd g.owners g.rewards out.nodes out.probs v =
      .ok ({ er := out.rewards, ermr := out.rewMinReach, pmr := out.probMinRew }, 0))
    (s : Nat) (ho : g.owners.getD s .prob = .p2) (hne : out.nodes.getD s [] ≠ []) :
    out.rewMinReach.getD s 0 =
      p2RewMinReach (g.rewards.getD s 0) out.rewMinReach (out.nodes.getD s [])
        (worstStratFrom rnd (rnd 1) out.probs (out.nodes.getD s [])) := by
  have hs : s < g.owners.size := owner_lt_size (by rw [ho]; simp)
  have hst := diag_fixed_of_exact hwf H v hsw s hs
  obtain ⟨e, m, p, hst', hm, _⟩ := diag_step_p2 rnd g.owners g.rewards out.nodes out.probs
    { er := out.rewards, ermr := out.rewMinReach, pmr := out.probMinRew } s hne ho
  rw [hst] at hst'
  simp only [Except.ok.injEq, Prod.mk.injEq] at hst'
  rw [hst'.2.1, hm]

/-- **Probabilistic states: the weighted sums.**  For a probabilistic state that kept
transitions all three reported quantities are the probability-weighted sums of the reported
quantities of the successors (plus the state's reward for the two reward quantities) — exactly -/
theorem diag_fixed_prob (hwf : NodesWF g.owners out.nodes)
    (H : solve rnd thr fuel prune g = .ok out) (v : RewVecs K)
    (hsw : sweepRew rnd g.owners g.rewards out.nodes out.probs v =
      .ok ({ er := out.rewards, ermr := out.rewMinReach, pmr := out.probMinRew }, 0))
    (s : Nat) (hs : s < g.owners.size) (ho : g.owners.getD s .prob = .prob)
    (hne : out.nodes.getD s [] ≠ []) :
    out.rewards.getD s 0 = g.rewards.getD s 0 +
      ((out.nodes.getD s []).map (fun t => out.rewards.getD t.tgt 0 * t.p)).sum ∧
    out.rewMinReach.getD s 0 = g.rewards.getD s 0 +
      ((out.nodes.getD s []).map (fun t => out.rewMinReach.getD t.tgt 0 * t.p)).sum ∧
    out.probMinRew.getD s 0 =
      ((out.nodes.getD s []).map (fun t => out.probMinRew.getD t.tgt 0 * t.p)).sum := by
  have hst := diag_fixed_of_exact hwf H v hsw s hs
  rw [stepRew_prob hne ho] at hst
  simp only [Except.ok.injEq, Prod.mk.injEq] at hst
  exact ⟨hst.1.symm, hst.2.1.symm, hst.2.2.symm⟩

/-- **Emptied states** report `0` for all three quantities (no condition on the threshold) -/
theorem diag_fixed_emptied (hwf : NodesWF g.owners out.nodes)
    (H : solve rnd thr fuel prune g = .ok out) (v : RewVecs K)
    (hsw : sweepRew rnd g.owners g.rewards out.nodes out.probs v =
      .ok ({ er := out.rewards, ermr := out.rewMinReach, pmr := out.probMinRew }, 0))
    (s : Nat) (hs : s < g.owners.size) (hrow : out.nodes.getD s [] = []) :
    out.rewards.getD s 0 = 0 ∧ out.rewMinReach.getD s 0 = 0 ∧ out.probMinRew.getD s 0 = 0 := by
  have hst := diag_fixed_of_exact hwf H v hsw s hs
  rw [stepRew_nil hrow] at hst
  simp only [Except.ok.injEq, Prod.mk.injEq] at hst
  exact ⟨hst.1.symm, hst.2.1.symm, hst.2.2.symm⟩

section NonVacuity
open CR.Examples CR.Rew.Examples

/-- on the run of `g7` (pruning on) the last sweep changed nothing; the Player-1 state 3 reports
the single action `gamma`, carried by the transition to state 5: its diagnostics are exactly
those of state 5 (plus its reward 2); the probabilistic state 1 satisfies the weighted-sum
equations; the emptied state 2 reports zeros -/
example : ∃ out, solve (roundRat 6) Examples.thr 1000 true g7 = .ok out ∧
    (∀ s < g7.owners.size,
      stepRew (roundRat 6) g7.owners g7.rewards out.nodes out.probs
        { er := out.rewards, ermr := out.rewMinReach, pmr := out.probMinRew } s =
      .ok (out.rewards.getD s 0, out.rewMinReach.getD s 0, out.probMinRew.getD s 0)) ∧
    (out.rewMinReach.getD 3 0 = out.rewMinReach.getD 5 0 + g7.rewards.getD 3 0 ∧
      out.probMinRew.getD 3 0 = out.probMinRew.getD 5 0) ∧
    out.probMinRew.getD 1 0 =
      ((out.nodes.getD 1 []).map (fun t => out.probMinRew.getD t.tgt 0 * t.p)).sum ∧
    out.rewards.getD 2 0 = 0 :=
  -- `g7_wf` and `g7_sweep` speak of `g7nodes`, `g7probs`, `g7vecs`: identified with the fields of
  -- the run once, not by unification at each of the four uses
  have hwf : NodesWF g7.owners g7out_true.nodes := g7_wf
  have hsw : sweepRew (roundRat 6) g7.owners g7.rewards g7out_true.nodes g7out_true.probs g7vecs =
      .ok ({ er := g7out_true.rewards, ermr := g7out_true.rewMinReach,
             pmr := g7out_true.probMinRew }, 0) := g7_sweep
  ⟨g7out_true, g7_solve_true, fun s hs => diag_fixed_of_exact hwf g7_solve_true g7vecs hsw s hs,
    diag_fixed_p1_reported hwf (roundRat_mono 6) g7_solve_true g7vecs hsw 3 rfl "gamma" rfl
      (tr "gamma" 0 5) (by decide +kernel),
    (diag_fixed_prob hwf g7_solve_true g7vecs hsw 1 (by decide) rfl (by decide +kernel)).2.2,
    (diag_fixed_emptied hwf g7_solve_true g7vecs hsw 2 (by decide) rfl).1⟩

end NonVacuity

end CR.C14
