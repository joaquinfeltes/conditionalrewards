/-
C09, bridge from the dynamically typed validation to the typed theorems.

`validate` (model of `check_game` + `init_states` on a *dynamically typed* description,
`CR/Model/Validate.lean`) accepts exactly the documented games (`C09.validate_iff`).  The solver
theorems C01–C06, C14 are stated for the *typed* game `toGame g` and carry typed hypotheses
(`checkGame`, `initStates`, sizes, targets in range).  This file shows that every accepted
description denotes a typed game satisfying all of them, so that the typed validation inside
`solve` can never fail after the dynamic one succeeded, and `solvePy` IS `solve` on that game.

The number type is `Float` (the instance the model of `solvePy` uses); the only fact about IEEE
arithmetic that is needed is `GlueFloat.ofInt_not_lt_zero`: a non-negative Python `int` reward
converts to a double that is not `< 0`.
-/
import CR.Props.C09
import CR.Lemmas.GlueFloat

namespace CR.C09

open CR CR.Py CR.ValidateLemmas

theorem toFloat_not_neg (r : PyNum) (h : r.isNeg = false) : ¬ (r.toFloat < 0) := by
  cases r with
  | int i =>
    have : 0 ≤ i := by simpa [PyNum.isNeg] using h
    exact GlueFloat.ofInt_not_lt_zero i this
  | float x => simpa [PyNum.isNeg, PyNum.toFloat] using h

/-- **every accepted description denotes a well-formed typed game**: one row and one reward per
state, at least one state, no reward `< 0`, every row non-empty with all targets in range, at
least one final state and all of them in range -/
theorem typed_wellformed (g : PyGame) (h : validate g = .ok ()) :
    (toGame g).tl.size = (toGame g).owners.size ∧
    (toGame g).rewards.size = (toGame g).owners.size ∧
    0 < (toGame g).owners.size ∧
    (∀ s < (toGame g).owners.size, decide ((toGame g).rewards.getD s 0 < 0) = false) ∧
    (∀ s < (toGame g).owners.size, (toGame g).tl.getD s [] ≠ []) ∧
    (∀ s < (toGame g).owners.size, ∀ t ∈ (toGame g).tl.getD s [],
      t.tgt < (toGame g).owners.size) ∧
    (toGame g).finals ≠ [] ∧
    (∀ f ∈ (toGame g).finals, f < (toGame g).owners.size) := by
  have hw := (validate_iff g).1 h
  obtain ⟨htl, hrw⟩ := hw.lengths
  obtain ⟨so, sr, st⟩ := toGame_sizes g
  have hn : 0 < g.players.length := by
    cases hf : g.finals with
    | nil => exact absurd hf hw.finals_ne
    | cons f fs =>
      obtain ⟨h0, hlt⟩ := hw.finals_range f (hf ▸ List.mem_cons_self)
      exact Int.natCast_pos.1 (Int.lt_of_le_of_lt h0 hlt)
  rw [so, sr, st, htl, hrw, Nat.min_self]
  refine ⟨rfl, rfl, hn, ?_, ?_, ?_, ?_, ?_⟩
  · intro s hs
    have hs' : s < g.rewards.length := hrw ▸ hs
    rw [toGame_reward g s hs']
    exact decide_eq_false (toFloat_not_neg _ (hw.rewards_nonneg _ (List.getElem_mem hs')))
  · intro s hs
    obtain ⟨xs, hxs, hne, _⟩ := hw.row hs
    rw [toGame_row g s hs (htl ▸ hs), hxs]
    exact fun h => hne (List.map_eq_nil_iff.1 h)
  · intro s hs t ht
    obtain ⟨xs, hxs, _, hall⟩ := hw.row hs
    rw [toGame_row g s hs (htl ▸ hs), hxs] at ht
    obtain ⟨e, he, rfl⟩ := List.mem_map.1 ht
    obtain ⟨a, b, i, rfl, _, _, hi, h0, hlt⟩ := hall e he
    rw [trOf_tgt, hi]
    exact (Int.toNat_lt h0).2 hlt
  · simpa [toGame] using hw.finals_ne
  · intro f hf
    simp only [toGame, List.mem_map] at hf
    obtain ⟨z, hz, rfl⟩ := hf
    obtain ⟨h0, hlt⟩ := hw.finals_range z hz
    exact (Int.toNat_lt h0).2 hlt

/-- the typed owner of a state is the documented player of the description -/
theorem typed_owner (g : PyGame) (h : validate g = .ok ()) (s : Nat) (hs : s < g.players.length) :
    ((toGame g).owners.getD s .prob = .p1 ↔ g.players.getD s "" = "Player 1") ∧
    ((toGame g).owners.getD s .prob = .p2 ↔ g.players.getD s "" = "Player 2") ∧
    ((toGame g).owners.getD s .prob = .prob ↔ g.players.getD s "" = "Probabilistic") := by
  rw [toGame_owner g s hs]
  exact owner_iff _ (((validate_iff g).1 h).players_known _ (getD_mem_of_lt g.players s "" hs))

/-- **the typed validation inside `solve` cannot fail on an accepted description** -/
theorem typed_validation_redundant (g : PyGame) (h : validate g = .ok ()) :
    checkGame (toGame g) = .ok () ∧ initStates (toGame g) = .ok () := by
  obtain ⟨htl, hrw, hpos, hnn, hne, htg, hfne, hfin⟩ := typed_wellformed g h
  refine ⟨checkGame_eq_ok.mpr ⟨htl, hrw, by omega, ?_, hfne, hfin⟩, initStates_eq_ok.mpr ?_⟩
  · exact (forall_mem_iff_getD 0).2 fun i hi => of_decide_eq_false (hnn i (by omega))
  · exact (forall_mem_iff_getD []).2 fun i hi => ⟨hne i (by omega), htg i (by omega)⟩

/-- `DocWellFormed` form of the same statement -/
theorem typed_validation_redundant_of_doc (g : PyGame) (h : DocWellFormed g) :
    checkGame (toGame g) = .ok () ∧ initStates (toGame g) = .ok () :=
  typed_validation_redundant g (validate_sound g h)

/-- **on an accepted description `solvePy` is `solve` on the denoted typed game** (for which,
by `typed_validation_redundant`, the typed validation cannot fail) -/
theorem solvePy_eq_solve_of_valid (thr : Float) (fuel : Nat) (prune : Bool) (g : PyGame)
    (h : validate g = .ok ()) :
    solvePy thr fuel prune g = solve (roundFloat 6) thr fuel prune (toGame g) := by
  rw [solvePy_eq, h]

/-- consequently a `malformed` outcome of `solvePy` can only come from the dynamic validation:
on an accepted description `solveReach` gets past both typed checks, i.e. it equals the loop,
the `noSolution` test and the strategy extraction -/
theorem solveReach_after_validate (thr : Float) (fuel : Nat) (prune : Bool) (g : PyGame)
    (h : validate g = .ok ()) :
    solveReach (roundFloat 6) thr fuel prune (toGame g) =
      (do
        let G := toGame g
        let reach0 : Array Float :=
          (Array.range G.owners.size).map (fun s => if G.finals.contains s then 1 else 0)
        let ord := reverseDfs (G.tl.toList.map (fun row => row.map (·.tgt))) G.finals
        let (reach, i) ← viReach G.owners G.tl ord thr fuel 1 reach0 0
        if prune && (reach.getD 0 0 == 0) then throw .noSolution
        pure { probs := reach, strat := reachStrategies (roundFloat 6) G.owners G.tl reach,
               iters := i, order := ord }) := by
  obtain ⟨hc, hi⟩ := typed_validation_redundant g h
  unfold solveReach
  rw [hc, hi]
  rfl

example : validate (demo 2) = .ok () := demo_valid

/-- all conclusions of `typed_wellformed` on the demo game (3 states) -/
example : (toGame (demo 2)).owners.size = 3 ∧ (toGame (demo 2)).tl.size = 3 ∧
    (toGame (demo 2)).finals = [2] := ⟨rfl, rfl, rfl⟩

example : checkGame (toGame (demo 2)) = .ok () ∧ initStates (toGame (demo 2)) = .ok () :=
  typed_validation_redundant _ demo_valid

/-- the reward `.int 1` of the demo becomes the double `1.0`, which is not `< 0` -/
example : decide ((toGame (demo 2)).rewards.getD 0 0 < 0) = false :=
  (typed_wellformed (demo 2) demo_valid).2.2.2.1 0 (by decide)

/-- the typed rows of the demo: the player rows carry the action names, the probabilistic row
the probabilities; `True` as a successor is state 1 -/
example : ((toGame (demo 2)).tl.getD 0 []).map (fun t => (t.act, t.tgt)) = [("a", 1), ("b", 1)] :=
  rfl
example : ((toGame (demo 2)).tl.getD 1 []).map (fun t => t.tgt) = [0, 2] := rfl

/-- the hypothesis cannot be dropped: the description `demo (-1)` (a successor index `-1`) is
rejected by the dynamic validation although its typed image (where `-1` has become state `0`)
passes both typed checks — the dynamic checks are the stronger ones, and `solvePy` raises -/
example (thr : Float) (fuel : Nat) (prune : Bool) :
    (∃ rule, solvePy thr fuel prune (demo (-1)) = .error (.malformed rule)) ∧
    (checkGame (toGame (demo (-1)))).toBool = true ∧ (initStates (toGame (demo (-1)))).toBool = true :=
  ⟨malformed_raises thr fuel prune _
      (not_wf_of_error (e := .malformed "next state out of range") (by decide +kernel)),
    by decide +kernel, by decide +kernel⟩

end CR.C09
