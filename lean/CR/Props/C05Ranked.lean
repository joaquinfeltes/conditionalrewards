/-
Property C05 on ACYCLIC conditioned games with arbitrary reward ties: the final strategies are
exactly the optimal ones.

"… it lists exactly the permitted actions whose successor has the largest conditioned expected
reward (for Player 2 states: all actions with the smallest), in transition order …"

`C05.final_argmax_reported` states this for the REPORTED rewards.  Here the conditioned
transition lists `out.nodes` are ranked (acyclic apart from absorbing zero-reward self-loops:
`Rank.Ranked`, the hypothesis of `C06.rewards_terminate_of_ranked`), so by `CR.Props.C02Ranked` the
reported rewards are EXACT wherever the loop has run long enough, and the statement becomes one
about the exact conditioned expected rewards `w` (`Rank.ExactRew …  w`: the unique fixed point of
the reward equations that is 0 at the absorbing states; it exists: `C02.exactRew_exists_unique`):

* `final_optimal_on_low_rank`: at a player state `s` with `rk s + 1 ≤ out.itRew` the final strategy
  is the list, in transition order, of the permitted actions whose successor has the largest
  (Player 2: smallest) ROUNDED EXACT reward — any threshold, rounding function, fuel, pruning flag;
* `final_optimal_of_ranked`: the same at every player state if `R + 1 ≤ out.itRew` or the reported
  vectors are the result of a sweep with reported change 0 (always so when `thr = 0`);
* `final_optimal_of_ranked_strict`: if moreover the rounding function is strictly monotone on the
  exact rewards of the successors of `s` (and, for Player 1, does not round them below 0 — the
  maximum is clamped below by the literal 0 as in the code), the final strategy lists exactly the
  permitted actions whose successor has the largest (smallest) exact reward, ties included.

Helper lemmas live in `CR/Lemmas/Ranked.lean`.
-/
import CR.Props.C02Ranked
import CR.Props.C05

namespace CR.C05

open CR CR.VI CR.Rew CR.C06 CR.Rank

variable {K : Type} [Field K] [LinearOrder K] [IsStrictOrderedRing K]

section
variable {rnd : K → Int} {thr : K} {fuel : Nat} {prune : Bool} {g : Game K} {out : SolveOut K}
  {rk : Nat → Nat} {R : Nat}

omit [IsStrictOrderedRing K] in
/-- 0. the final strategy of a player state depends on the reported rewards of its successors
only: if they coincide there with `w`, the final strategy is the arg-max (Player 1; maximum of the
rounded values clamped below by 0) / arg-min (Player 2) list of the rounded values of `w` -/
theorem final_argmax_of_agree (H : solve rnd thr fuel prune g = .ok out) (w : Array K) (s : Nat)
    (hag : ∀ t ∈ out.nodes.getD s [], out.rewards.getD t.tgt 0 = w.getD t.tgt 0) :
    (g.owners.getD s .prob = .p1 →
      out.finalStrat.getD s none = some
        (((out.nodes.getD s []).filter (fun t => rnd (w.getD t.tgt 0) ==
            (out.nodes.getD s []).foldl (fun m t => max m (rnd (w.getD t.tgt 0))) 0)).map
          (·.act))) ∧
    (∀ t0 rest, g.owners.getD s .prob = .p2 → out.nodes.getD s [] = t0 :: rest →
      out.finalStrat.getD s none = some
        (((t0 :: rest).filter (fun t => rnd (w.getD t.tgt 0) ==
            (t0 :: rest).foldl (fun m t => min m (rnd (w.getD t.tgt 0)))
              (rnd (w.getD t0.tgt 0)))).map (·.act))) := by
  obtain ⟨h1, h2⟩ := final_argmax_reported H
  refine ⟨fun hp => ?_, fun t0 rest hp hrow => ?_⟩
  · rw [h1 s hp, argList_congr _ (fun t => rnd (w.getD t.tgt 0)) max 0 _
      fun t ht => congrArg rnd (hag t ht)]
  · rw [hrow] at hag
    rw [(h2 s t0 rest hp hrow).1, hag t0 List.mem_cons_self,
      argList_congr _ (fun t => rnd (w.getD t.tgt 0)) min _ _ fun t ht => congrArg rnd (hag t ht)]

/-- on ranked conditioned lists the reported rewards of all successors of a state of rank
`< out.itRew` are exact -/
theorem successors_exact_on_low_rank (H : solve rnd thr fuel prune g = .ok out)
    (hrk : Ranked g.owners g.rewards out.nodes rk R) (w : Array K)
    (hw : ExactRew g.owners g.rewards out.nodes w) (s : Nat) (hs : s < g.owners.size)
    (hlow : rk s + 1 ≤ out.itRew) :
    ∀ t ∈ out.nodes.getD s [], out.rewards.getD t.tgt 0 = w.getD t.tgt 0 := by
  intro t ht
  by_cases ha : Absorbing g.owners g.rewards out.nodes s
  · rw [ha.succ_eq ht]
    exact C02.rew_exact_on_low_rank H hrk w hw s hs (Or.inr hlow)
  · obtain ⟨htn, h⟩ := hrk.step s hs ha t ht
    exact C02.rew_exact_on_low_rank H hrk w hw _ htn (h.elim Or.inl (fun h => Or.inr (by omega)))

/-- 3a. **optimal final strategies on low ranks**: on ranked conditioned lists, at a Player-1
state `s` whose rank is below the number of sweeps performed, the final strategy lists, in
transition order, exactly the permitted actions whose successor has the largest ROUNDED EXACT
conditioned expected reward (maximum clamped below by 0); dually at a Player-2 state, the
smallest -/
theorem final_optimal_on_low_rank (H : solve rnd thr fuel prune g = .ok out)
    (hrk : Ranked g.owners g.rewards out.nodes rk R) (w : Array K)
    (hw : ExactRew g.owners g.rewards out.nodes w) (s : Nat) (hs : s < g.owners.size)
    (hlow : rk s + 1 ≤ out.itRew) :
    (g.owners.getD s .prob = .p1 →
      out.finalStrat.getD s none = some
        (((out.nodes.getD s []).filter (fun t => rnd (w.getD t.tgt 0) ==
            (out.nodes.getD s []).foldl (fun m t => max m (rnd (w.getD t.tgt 0))) 0)).map
          (·.act))) ∧
    (∀ t0 rest, g.owners.getD s .prob = .p2 → out.nodes.getD s [] = t0 :: rest →
      out.finalStrat.getD s none = some
        (((t0 :: rest).filter (fun t => rnd (w.getD t.tgt 0) ==
            (t0 :: rest).foldl (fun m t => min m (rnd (w.getD t.tgt 0)))
              (rnd (w.getD t0.tgt 0)))).map (·.act))) :=
  final_argmax_of_agree H w s (successors_exact_on_low_rank H hrk w hw s hs hlow)

/-- 3. **optimal final strategies**: on ranked conditioned lists, if the reward loop performed at
least `R + 1` sweeps or the reported vectors are the result of a sweep with reported change 0,
then at EVERY Player-1 state the final strategy lists, in transition order, exactly the permitted
actions whose successor has the largest rounded exact conditioned expected reward (clamped below
by 0), and at every Player-2 state (with permitted list `t0 :: rest`) exactly those with the
smallest.  `w` is any — hence the — exact solution; `out.rewards` is one. -/
theorem final_optimal_of_ranked (H : solve rnd thr fuel prune g = .ok out)
    (hrk : Ranked g.owners g.rewards out.nodes rk R)
    (hconv : R + 1 ≤ out.itRew ∨
      ∃ v : RewVecs K, sweepRew rnd g.owners g.rewards out.nodes out.probs v =
        .ok ({ er := out.rewards, ermr := out.rewMinReach, pmr := out.probMinRew }, 0))
    (w : Array K) (hw : ExactRew g.owners g.rewards out.nodes w) :
    ExactRew g.owners g.rewards out.nodes out.rewards ∧
    (∀ s, g.owners.getD s .prob = .p1 →
      out.finalStrat.getD s none = some
        (((out.nodes.getD s []).filter (fun t => rnd (w.getD t.tgt 0) ==
            (out.nodes.getD s []).foldl (fun m t => max m (rnd (w.getD t.tgt 0))) 0)).map
          (·.act))) ∧
    (∀ s t0 rest, g.owners.getD s .prob = .p2 → out.nodes.getD s [] = t0 :: rest →
      out.finalStrat.getD s none = some
        (((t0 :: rest).filter (fun t => rnd (w.getD t.tgt 0) ==
            (t0 :: rest).foldl (fun m t => min m (rnd (w.getD t.tgt 0)))
              (rnd (w.getD t0.tgt 0)))).map (·.act))) := by
  obtain ⟨hex, huniq⟩ := C02.rew_exact_of_ranked H hrk hconv
  have hag : ∀ s, g.owners.getD s .prob ≠ .prob →
      ∀ t ∈ out.nodes.getD s [], out.rewards.getD t.tgt 0 = w.getD t.tgt 0 := by
    intro s hne t ht
    have hs : s < g.owners.size := owner_lt_size hne
    have hna : ¬ Absorbing g.owners g.rewards out.nodes s := fun ha => hne ha.1
    exact huniq w hw _ (hrk.step s hs hna t ht).1
  exact ⟨hex, fun s hp => (final_argmax_of_agree H w s (hag s (by rw [hp]; simp))).1 hp,
    fun s t0 rest hp hrow =>
      (final_argmax_of_agree H w s (hag s (by rw [hp]; simp))).2 t0 rest hp hrow⟩

/-- 3'. **exactly the optimal actions**: under the hypotheses of 3, if the rounding function is
strictly monotone on the exact rewards of the successors of the Player-1 state `s` and rounds none
of them below 0, the final strategy of `s` lists, in transition order, exactly the permitted
actions whose successor has the largest EXACT conditioned expected reward — all of them when there
are ties.  Dually for a Player-2 state: exactly those with the smallest. -/
theorem final_optimal_of_ranked_strict (H : solve rnd thr fuel prune g = .ok out)
    (hrk : Ranked g.owners g.rewards out.nodes rk R)
    (hconv : R + 1 ≤ out.itRew ∨
      ∃ v : RewVecs K, sweepRew rnd g.owners g.rewards out.nodes out.probs v =
        .ok ({ er := out.rewards, ermr := out.rewMinReach, pmr := out.probMinRew }, 0))
    (w : Array K) (hw : ExactRew g.owners g.rewards out.nodes w) (s : Nat)
    (hmono : ∀ t ∈ out.nodes.getD s [], ∀ t' ∈ out.nodes.getD s [],
      w.getD t.tgt 0 < w.getD t'.tgt 0 → rnd (w.getD t.tgt 0) < rnd (w.getD t'.tgt 0)) :
    (g.owners.getD s .prob = .p1 → (∀ t ∈ out.nodes.getD s [], 0 ≤ rnd (w.getD t.tgt 0)) →
      out.finalStrat.getD s none = some
        (((out.nodes.getD s []).filter (fun t =>
            decide (∀ t' ∈ out.nodes.getD s [], w.getD t'.tgt 0 ≤ w.getD t.tgt 0))).map
          (·.act))) ∧
    (g.owners.getD s .prob = .p2 → out.nodes.getD s [] ≠ [] →
      out.finalStrat.getD s none = some
        (((out.nodes.getD s []).filter (fun t =>
            decide (∀ t' ∈ out.nodes.getD s [], w.getD t.tgt 0 ≤ w.getD t'.tgt 0))).map
          (·.act))) := by
  obtain ⟨_, h1, h2⟩ := final_optimal_of_ranked H hrk hconv w hw
  refine ⟨fun hp hnn => ?_, fun hp hne => ?_⟩
  · rw [h1 s hp, argmax_rnd_eq rnd w _ hmono hnn]
  · obtain ⟨t0, rest, hrow⟩ := List.exists_cons_of_ne_nil hne
    rw [hrow] at hmono
    rw [h2 s t0 rest hp hrow, argmin_rnd_eq rnd w t0 rest hmono, hrow]

/-- 3''. with threshold 0 the hypothesis on the loop is automatic -/
theorem final_optimal_of_ranked_thr_zero (hthr : thr = 0)
    (H : solve rnd thr fuel prune g = .ok out) (hrk : Ranked g.owners g.rewards out.nodes rk R)
    (w : Array K) (hw : ExactRew g.owners g.rewards out.nodes w) :
    (∀ s, g.owners.getD s .prob = .p1 →
      out.finalStrat.getD s none = some
        (((out.nodes.getD s []).filter (fun t => rnd (w.getD t.tgt 0) ==
            (out.nodes.getD s []).foldl (fun m t => max m (rnd (w.getD t.tgt 0))) 0)).map
          (·.act))) ∧
    (∀ s t0 rest, g.owners.getD s .prob = .p2 → out.nodes.getD s [] = t0 :: rest →
      out.finalStrat.getD s none = some
        (((t0 :: rest).filter (fun t => rnd (w.getD t.tgt 0) ==
            (t0 :: rest).foldl (fun m t => min m (rnd (w.getD t.tgt 0)))
              (rnd (w.getD t0.tgt 0)))).map (·.act))) :=
  (final_optimal_of_ranked H hrk (Or.inr (solve_thr_zero_sweep H hthr)) w hw).2

end

section NonVacuity
open CR.Examples CR.Rew.Examples CR.Rank.Examples

/-- `final_optimal_of_ranked` and `final_optimal_of_ranked_strict` instantiated on the run of the
7-state game `g7` (pruning on; conditioned lists ranked with maximal rank 2; 3 sweeps), with
`w := out.rewards`, at the Player-1 states 0 and 3 -/
example : ∃ out, solve (roundRat 6) thr 1000 true g7 = .ok out ∧
    ExactRew g7.owners g7.rewards out.nodes out.rewards ∧
    out.finalStrat.getD 0 none = some
      (((out.nodes.getD 0 []).filter (fun t => decide (∀ t' ∈ out.nodes.getD 0 [],
        out.rewards.getD t'.tgt 0 ≤ out.rewards.getD t.tgt 0))).map (·.act)) ∧
    out.finalStrat.getD 3 none = some
      (((out.nodes.getD 3 []).filter (fun t => decide (∀ t' ∈ out.nodes.getD 3 [],
        out.rewards.getD t'.tgt 0 ≤ out.rewards.getD t.tgt 0))).map (·.act)) ∧
    out.finalStrat = #[some ["alfa"], none, none, some ["gamma"], none, none, none] := by
  have H := g7_solve_true
  have hrk : Ranked g7.owners g7.rewards g7out_true.nodes rk7 2 := g7_ranked
  have hconv : 2 + 1 ≤ g7out_true.itRew ∨
      ∃ v : RewVecs Rat, sweepRew (roundRat 6) g7.owners g7.rewards g7out_true.nodes
        g7out_true.probs v =
          .ok (⟨g7out_true.rewards, g7out_true.rewMinReach, g7out_true.probMinRew⟩, 0) :=
    Or.inl (by decide)
  obtain ⟨hex, _, _⟩ := final_optimal_of_ranked H hrk hconv g7out_true.rewards
    (C02.rew_exact_of_ranked H hrk hconv).1
  exact ⟨_, H, hex,
    (final_optimal_of_ranked_strict H hrk hconv _ hex 0 (by decide +kernel)).1 rfl
      (by decide +kernel),
    (final_optimal_of_ranked_strict H hrk hconv _ hex 3 (by decide +kernel)).1 rfl
      (by decide +kernel), rfl⟩

/-- the 6-state game `g6` (pruning on; ranked with maximal rank 2; 3 sweeps): a three-way choice
at the Player-1 state 0 (exact rewards 0, 0, 1 of the successors: `["c"]`) and a TIE at the
Player-2 state 1 (exact rewards 0, 0: both actions listed) -/
example : ∃ out, solve (roundRat 6) thr 1000 true g6 = .ok out ∧
    ExactRew g6.owners g6.rewards out.nodes out.rewards ∧
    out.finalStrat.getD 0 none = some
      (((out.nodes.getD 0 []).filter (fun t => decide (∀ t' ∈ out.nodes.getD 0 [],
        out.rewards.getD t'.tgt 0 ≤ out.rewards.getD t.tgt 0))).map (·.act)) ∧
    out.finalStrat.getD 1 none = some
      (((out.nodes.getD 1 []).filter (fun t => decide (∀ t' ∈ out.nodes.getD 1 [],
        out.rewards.getD t.tgt 0 ≤ out.rewards.getD t'.tgt 0))).map (·.act)) ∧
    out.finalStrat = #[some ["c"], some ["x", "y"], none, none, none, none] := by
  have H := g6_solve_true
  have hrk : Ranked g6.owners g6.rewards g6out_true.nodes rk6 2 := g6_ranked
  have hconv : 2 + 1 ≤ g6out_true.itRew ∨
      ∃ v : RewVecs Rat, sweepRew (roundRat 6) g6.owners g6.rewards g6out_true.nodes
        g6out_true.probs v =
          .ok (⟨g6out_true.rewards, g6out_true.rewMinReach, g6out_true.probMinRew⟩, 0) :=
    Or.inl (by decide)
  have hex := (C02.rew_exact_of_ranked H hrk hconv).1
  exact ⟨_, H, hex,
    (final_optimal_of_ranked_strict H hrk hconv _ hex 0 (by decide +kernel)).1 rfl
      (by decide +kernel),
    (final_optimal_of_ranked_strict H hrk hconv _ hex 1 (by decide +kernel)).2 rfl
      (by decide +kernel), rfl⟩

/-- `final_optimal_on_low_rank` instantiated (state 3 of `g7` has rank 0) -/
example : ∃ out, solve (roundRat 6) thr 1000 true g7 = .ok out ∧
    ∀ w, ExactRew g7.owners g7.rewards out.nodes w →
      out.finalStrat.getD 3 none = some
        (((out.nodes.getD 3 []).filter (fun t => roundRat 6 (w.getD t.tgt 0) ==
            (out.nodes.getD 3 []).foldl (fun m t => max m (roundRat 6 (w.getD t.tgt 0))) 0)).map
          (·.act)) := by
  have hrk : Ranked g7.owners g7.rewards g7out_true.nodes rk7 2 := g7_ranked
  exact ⟨_, g7_solve_true, fun w hw =>
    (final_optimal_on_low_rank g7_solve_true hrk w hw 3 (by decide) (by decide)).1 rfl⟩

end NonVacuity

end CR.C05
