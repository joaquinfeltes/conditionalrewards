/-
Property C13 (presentation independence), the EXPECTED-REWARD PHASE.

"Renumbering the states (keeping the initial state first), reordering the transitions inside any
state, or renaming actions consistently changes the reported probabilities and expected rewards
only by the corresponding renumbering …, changes strategies only by the renaming …"

`CR.Props.C13` treats the reachability phase and the conditioned rows.  This file extends it to
the reward phase (`viRew`) and the final strategies.  `RewRel π ρ o o' r r' nodes nodes'`
(`CR/Lemmas/EquivRew.lean`) is the `Presents` of a "reward game" (owners, state rewards, transition
lists): `π` injective, hence bijective, on `0..n-1`, owners and rewards related along `π`, the row
of `π s` in `nodes'` a `List.Perm` of the row of `s` in `nodes` mapped by `trMap π ρ`, and all
targets of `nodes` states (without this a target `≥ n` would be read as value 0 on one side while
`π` is unconstrained outside `0..n-1` — the `TgtOk` of C13).

What is proved:
1. `Present.brew_eq`: the reward Bellman operator commutes with the re-presentation (max / min
   over a permuted list, the weighted sum over a permuted list — equal in a field; the Player-2
   minimum is started at the FIRST transition of the row, which differs between the two
   presentations, and is shown not to matter);
2. `absorbing_equivariant`, `Present.exactRew_iff`, `ranked_equivariant`,
   `exactRew_unique_equivariant`: absorbing states, exact solutions of the reward equations and
   rankedness correspond; ANY exact solution of a ranked game is the renumbering of ANY exact
   solution of its re-presentation;
3. `condition_equivariant` / `nodes_equivariant_of_exact`: conditioning — INCLUDING the emptying
   of unreachable states by the `prune_states` loop — commutes with the re-presentation, so the
   conditioned lists of two exactly converged runs are `RewRel`-related at EVERY state, with
   pruning on or off;
4. `reports_equivariant_of_exactRew`: two runs (same rounding function; any thresholds and fuels)
   with related conditioned lists (3), ranked for `g`, whose reported expected rewards are exact
   solutions (`C02.rew_exact_of_ranked`; automatic with threshold 0:
   `rewards_equivariant_of_thr_zero`) report expected rewards related EXACTLY by `π`, at every
   state,
5. … and final strategies that list exactly the renamed actions, possibly in a different order
   (`StratPerm`) — no monotonicity of the rounding function is needed for this; with the strict
   monotonicity of `C05.final_optimal_of_ranked_strict` both are the (renamed) lists of the
   value-optimal permitted actions (`final_strategies_optimal_equivariant`).

NOT proved (and not true as exact statements): the same for runs that were stopped by the residual
test before converging exactly (the intermediate Gauss–Seidel iterates depend on the state order),
and for floating-point runs (the order of a weighted sum changes the rounding).
-/
import CR.Lemmas.EquivRewPrune
import CR.Lemmas.EquivRewEx
import CR.Props.C13
import CR.Props.C05Ranked

namespace CR.C13

open CR CR.VI CR.Rew CR.C06 CR.Rank CR.Present

variable {K : Type} [Field K] [LinearOrder K] [IsStrictOrderedRing K]
variable {π : Nat → Nat} {ρ : String → String}

section Operator
variable {o o' : Array Owner} {r r' : Array K} {nodes nodes' : Array (List (Tr K))}

set_option linter.unusedSectionVars false in
/-- `RewRel` spelled out -/
theorem rewRel_iff :
    RewRel π ρ o o' r r' nodes nodes' ↔
      o'.size = o.size ∧ (∀ s < o.size, π s < o.size) ∧
      (∀ s < o.size, ∀ s' < o.size, π s = π s' → s = s') ∧
      (∀ s < o.size, o'.getD (π s) .prob = o.getD s .prob) ∧
      (∀ s < o.size, r'.getD (π s) 0 = r.getD s 0) ∧
      (∀ s < o.size, (nodes'.getD (π s) []).Perm ((nodes.getD s []).map (trMap π ρ))) ∧
      (∀ s < o.size, ∀ t ∈ nodes.getD s [], t.tgt < o.size) :=
  ⟨fun h => ⟨h.n_owners, h.maps, h.inj, h.owners, h.rewards, h.rows, h.tgt⟩,
    fun ⟨h1, h2, h3, h4, h5, h6, h7⟩ => ⟨h1, h2, h3, h4, h5, h6, h7⟩⟩

set_option linter.unusedSectionVars false in
/-- the renumbering of a `RewRel` pair is onto `0..n-1` -/
theorem rewRel_surjective (h : RewRel π ρ o o' r r' nodes nodes') :
    ∀ u < o.size, ∃ s < o.size, π s = u := h.renum.surj

/-- 1'. 1 (`Present.brew_eq`) stated for a `Presents` pair of games and their own transition
lists -/
theorem brew_equivariant_of_presents {g g' : Game K} (h : Presents π ρ g g') (hr : TgtOk g)
    {x x' : Array K} (hx : ∀ s < g.owners.size, x'.getD (π s) 0 = x.getD s 0) :
    ∀ s < g.owners.size,
      Brew g'.owners g'.rewards g'.tl x' (π s) = Brew g.owners g.rewards g.tl x s :=
  fun _ hs => brew_eq (h.rewRel h.rows hr.2) hx hs

/-- fixed points of `Brew` correspond -/
theorem brew_fixed_point_equivariant (h : RewRel π ρ o o' r r' nodes nodes') {x x' : Array K}
    (hx : ∀ s < o.size, x'.getD (π s) 0 = x.getD s 0) :
    (∀ s < o.size, Brew o r nodes x s = x.getD s 0) ↔
      (∀ u < o'.size, Brew o' r' nodes' x' u = x'.getD u 0) := by
  rw [h.n_owners]
  refine Iff.trans (forall₂_congr fun s hs => ?_) h.renum.forall_iff.symm
  rw [brew_eq h hx hs, hx s hs]

/-- 2a. absorbing states (probabilistic, reward 0, a single self-loop of probability 1)
correspond -/
theorem absorbing_equivariant (h : RewRel π ρ o o' r r' nodes nodes') :
    ∀ s < o.size, (Absorbing o r nodes s ↔ Absorbing o' r' nodes' (π s)) :=
  fun _ hs => (absorbing_iff h hs).symm

/-- 2. `w` solves the reward equations of `nodes` exactly iff its transport solves those of
`nodes'` exactly (`Present.exactRew_iff`, for `Transports`) -/
theorem exactRew_equivariant_of_transports (h : RewRel π ρ o o' r r' nodes nodes')
    {w w' : Array K} (ht : Transports π o.size w w') :
    ExactRew o r nodes w ↔ ExactRew o' r' nodes' w' :=
  (exactRew_iff h ht.getD).symm

/-- 2b. rankedness transports, with the rank function `rk ∘ π⁻¹` (`invOn`: the inverse of `π` on
`0..n-1`) and the SAME bound `R` -/
theorem ranked_equivariant (h : RewRel π ρ o o' r r' nodes nodes') {rk : Nat → Nat} {R : Nat}
    (hrk : Ranked o r nodes rk R) :
    Ranked o' r' nodes' (fun u => rk (invOn π o.size u)) R ∧
      ∀ s < o.size, (fun u => rk (invOn π o.size u)) (π s) = rk s :=
  ⟨ranked_push h hrk, fun s hs => by simp only [h.renum.invOn_left hs]⟩

/-- 2c. on ranked lists, ANY exact solution of the re-presentation is the renumbering of ANY
exact solution of the original (no transport hypothesis) -/
theorem exactRew_unique_equivariant (h : RewRel π ρ o o' r r' nodes nodes') {rk : Nat → Nat}
    {R : Nat} (hrk : Ranked o r nodes rk R) {w w' : Array K} (hsz' : w'.size = o.size)
    (hw : ExactRew o r nodes w) (hw' : ExactRew o' r' nodes' w') :
    ∀ s < o.size, w'.getD (π s) 0 = w.getD s 0 := by
  have ht := transports_pull (π := π) hsz'
  have hy := (exactRew_iff h ht.getD).mp hw'
  exact fun s hs => (ht.getD s hs).trans (C02.exactRew_unique hrk _ _ hy hw s hs)

end Operator

variable {g g' : Game K}

/-- 3. conditioning commutes with the re-presentation: from reachability vectors related along
`π` and strategy tables naming the same actions up to `ρ`, the results of `condition` (with the
same pruning flag: `prune_reachability`, then `prune_paths` and the `prune_states` loop) are
related row by row at EVERY state — a state is emptied in `g'` iff its pre-image is emptied in
`g` -/
theorem condition_equivariant (h : Presents π ρ g g') (hr : TgtOk g) {reach reach' : Array K}
    (hx : ∀ s < g.owners.size, reach'.getD (π s) 0 = reach.getD s 0)
    {st st' : Array Strat} (hst : StratRel π ρ g.owners.size st st') {prune : Bool}
    {nodes nodes' : Array (List (Tr K))} (hc : condition prune g st reach = .ok nodes)
    (hc' : condition prune g' st' reach' = .ok nodes') :
    RewRel π ρ g.owners g'.owners g.rewards g'.rewards nodes nodes' ∧
      ∀ s < g.owners.size, (nodes'.getD (π s) [] = [] ↔ nodes.getD s [] = []) := by
  have hrel := condition_rel h hr hx hst hc hc'
  exact ⟨hrel, fun s hs => hrel.row_nil_iff hs⟩

section Runs
variable {rnd : K → Int} {thr thr' : K} {fuel fuel' : Nat} {prune : Bool}
  {out out' : SolveOut K} {ro ro' : ReachOut K}

/-- 3'. the conditioned lists of two runs whose reachability phases converged exactly (the last
sweep of `viReach` changed nothing: hypotheses of `solve_equivariant_of_exact`, for the
`solveReach` runs inside `solve` — `Hr`, `Hr'` are determined by `H`, `H'`: `C02.rew_result`)
are related at every state -/
theorem nodes_equivariant_of_exact (h : Presents π ρ g g') (hwf : C01.WF g)
    (H : solve rnd thr fuel prune g = .ok out) (H' : solve rnd thr' fuel' prune g' = .ok out')
    (Hr : solveReach rnd thr fuel prune g = .ok ro)
    (Hr' : solveReach rnd thr' fuel' prune g' = .ok ro')
    (x : Array K) (hsw : sweepReach g.owners g.tl ro.order x = (ro.probs, 0))
    (x' : Array K) (hsw' : sweepReach g'.owners g'.tl ro'.order x' = (ro'.probs, 0)) :
    RewRel π ρ g.owners g'.owners g.rewards g'.rewards out.nodes out'.nodes := by
  obtain ⟨⟨_, h1, hp, hst, _⟩, hcond, _⟩ := C02.rew_result H
  obtain ⟨⟨_, h1', hp', hst', _⟩, hcond', _⟩ := C02.rew_result H'
  cases Except.ok.inj (h1.symm.trans Hr)
  cases Except.ok.inj (h1'.symm.trans Hr')
  refine condition_rel h (tgtOk_of_wf hwf) ?_ ?_ hcond hcond'
  · rw [hp, hp']
    exact solve_equivariant_of_exact h hwf Hr Hr' x hsw x' hsw'
  · rw [hst, hst']
    exact stratRel_of_perm h.ρ_injective
      (strategies_equivariant_of_exact h hwf Hr Hr' x hsw x' hsw')

/-- 4, 5. **expected rewards and final strategies**.  Two successful runs with the same rounding
function (any thresholds, any fuels) whose conditioned lists are related (3'), those of `g` ranked,
and whose reported expected rewards solve the reward equations of their conditioned lists exactly
(`C02.rew_exact_of_ranked`: the reward loop performed at least `R + 1` sweeps or ended with a
sweep that changed nothing; the lists of `g'` are ranked with the same bound, `ranked_equivariant`).
Then the reported expected rewards are related EXACTLY by the renumbering, and the final strategy
reported for `π s` in `g'` lists exactly the renamed actions of the one reported for `s` in `g`,
possibly in a different order (`StratPerm`) — both at EVERY state (reachable from the initial state
or not, emptied or not, pruning on or off).  No monotonicity of the rounding function is needed:
both runs round exactly related values with the same function. -/
theorem reports_equivariant_of_exactRew {rk : Nat → Nat} {R : Nat}
    (H : solve rnd thr fuel prune g = .ok out) (H' : solve rnd thr' fuel' prune g' = .ok out')
    (hrel : RewRel π ρ g.owners g'.owners g.rewards g'.rewards out.nodes out'.nodes)
    (hrk : Ranked g.owners g.rewards out.nodes rk R)
    (hw : ExactRew g.owners g.rewards out.nodes out.rewards)
    (hw' : ExactRew g'.owners g'.rewards out'.nodes out'.rewards) :
    (∀ s < g.owners.size, out'.rewards.getD (π s) 0 = out.rewards.getD s 0) ∧
      ∀ s < g.owners.size,
        StratPerm ρ (out.finalStrat.getD s none) (out'.finalStrat.getD (π s) none) := by
  have hrew := exactRew_unique_equivariant hrel hrk ((C02.rew_size H').1.trans hrel.n_owners) hw hw'
  obtain ⟨_, _, _, _, hf, _⟩ := solve_eq_ok.mp H
  obtain ⟨_, _, _, _, hf', _⟩ := solve_eq_ok.mp H'
  rw [hf, hf']
  exact ⟨hrew, fun s hs => rewardStrategies_perm hrel rnd hrew hs⟩

/-- 4'. with threshold 0 in both runs the hypotheses on the reward loops are automatic, and
rankedness need only be assumed for ONE presentation -/
theorem rewards_equivariant_of_thr_zero {rk : Nat → Nat} {R : Nat}
    (h : Presents π ρ g g') (hwf : C01.WF g) (hthr : thr = 0) (hthr' : thr' = 0)
    (H : solve rnd thr fuel prune g = .ok out) (H' : solve rnd thr' fuel' prune g' = .ok out')
    (Hr : solveReach rnd thr fuel prune g = .ok ro)
    (Hr' : solveReach rnd thr' fuel' prune g' = .ok ro')
    (x : Array K) (hsw : sweepReach g.owners g.tl ro.order x = (ro.probs, 0))
    (x' : Array K) (hsw' : sweepReach g'.owners g'.tl ro'.order x' = (ro'.probs, 0))
    (hrk : Ranked g.owners g.rewards out.nodes rk R) :
    ∀ s < g.owners.size, out'.rewards.getD (π s) 0 = out.rewards.getD s 0 := by
  have hrel := nodes_equivariant_of_exact h hwf H H' Hr Hr' x hsw x' hsw'
  exact (reports_equivariant_of_exactRew H H' hrel hrk
    (C02.rew_exact_of_ranked_thr_zero hthr H hrk).1
    (C02.rew_exact_of_ranked_thr_zero hthr' H' (ranked_push hrel hrk)).1).1

/-- 5'. **optimal final strategies in both presentations**.  Two presentations of a well-formed
game, two successful runs with the same rounding function and the same pruning flag such that
(a) both reachability phases converged exactly, (b) both conditioned lists are ranked and both
reward loops performed at least `R + 1` sweeps or ended with a sweep that changed nothing (the
hypothesis of `C02.rew_exact_of_ranked`).  If the rounding function is strictly monotone on the
exact rewards of the successors of `s` in the conditioned game of `g` (and, for Player 1, rounds
none of them below 0 — the hypotheses of `C05.final_optimal_of_ranked_strict`, for `g` ONLY), then
the final strategy reported for `π s` in `g'` is a permutation of the `ρ`-renamed list of exactly
those permitted actions of `s` whose successor has the largest (Player 1) / smallest (Player 2)
exact conditioned expected reward. -/
theorem final_strategies_optimal_equivariant {rk rk' : Nat → Nat} {R R' : Nat}
    (h : Presents π ρ g g') (hwf : C01.WF g)
    (H : solve rnd thr fuel prune g = .ok out) (H' : solve rnd thr' fuel' prune g' = .ok out')
    (Hr : solveReach rnd thr fuel prune g = .ok ro)
    (Hr' : solveReach rnd thr' fuel' prune g' = .ok ro')
    (x : Array K) (hsw : sweepReach g.owners g.tl ro.order x = (ro.probs, 0))
    (x' : Array K) (hsw' : sweepReach g'.owners g'.tl ro'.order x' = (ro'.probs, 0))
    (hrk : Ranked g.owners g.rewards out.nodes rk R)
    (hrk' : Ranked g'.owners g'.rewards out'.nodes rk' R')
    (hconv : R + 1 ≤ out.itRew ∨
      ∃ v : RewVecs K, sweepRew rnd g.owners g.rewards out.nodes out.probs v =
        .ok ({ er := out.rewards, ermr := out.rewMinReach, pmr := out.probMinRew }, 0))
    (hconv' : R' + 1 ≤ out'.itRew ∨
      ∃ v : RewVecs K, sweepRew rnd g'.owners g'.rewards out'.nodes out'.probs v =
        .ok ({ er := out'.rewards, ermr := out'.rewMinReach, pmr := out'.probMinRew }, 0))
    (s : Nat) (hs : s < g.owners.size)
    (hmono : ∀ t ∈ out.nodes.getD s [], ∀ t' ∈ out.nodes.getD s [],
      out.rewards.getD t.tgt 0 < out.rewards.getD t'.tgt 0 →
        rnd (out.rewards.getD t.tgt 0) < rnd (out.rewards.getD t'.tgt 0)) :
    (g.owners.getD s .prob = .p1 →
      (∀ t ∈ out.nodes.getD s [], 0 ≤ rnd (out.rewards.getD t.tgt 0)) →
      ∃ l', out'.finalStrat.getD (π s) none = some l' ∧
        l'.Perm ((((out.nodes.getD s []).filter (fun t => decide (∀ t' ∈ out.nodes.getD s [],
          out.rewards.getD t'.tgt 0 ≤ out.rewards.getD t.tgt 0))).map (·.act)).map ρ)) ∧
    (g.owners.getD s .prob = .p2 → out.nodes.getD s [] ≠ [] →
      ∃ l', out'.finalStrat.getD (π s) none = some l' ∧
        l'.Perm ((((out.nodes.getD s []).filter (fun t => decide (∀ t' ∈ out.nodes.getD s [],
          out.rewards.getD t.tgt 0 ≤ out.rewards.getD t'.tgt 0))).map (·.act)).map ρ)) := by
  have hex := (C02.rew_exact_of_ranked H hrk hconv).1
  have hperm := (reports_equivariant_of_exactRew H H'
    (nodes_equivariant_of_exact h hwf H H' Hr Hr' x hsw x' hsw') hrk hex
    (C02.rew_exact_of_ranked H' hrk' hconv').1).2 s hs
  obtain ⟨h1, h2⟩ := C05.final_optimal_of_ranked_strict H hrk hconv out.rewards hex s hmono
  refine ⟨fun hp hnn => ?_, fun hp hne => ?_⟩
  · rw [h1 hp hnn] at hperm; exact stratPerm_some hperm
  · rw [h2 hp hne] at hperm; exact stratPerm_some hperm

end Runs

section NonVacuity
open CR.Present.Examples

/-- the relation of 1 is satisfiable: the transition lists of the pair `exG`, `exG'` of
`CR.Props.C13` (states 1 and 2 swapped, two rows reordered, all actions renamed) -/
example : RewRel exπ exρ exG.owners exG'.owners exG.rewards exG'.rewards exG.tl exG'.tl :=
  exG_rewRel

/-- the conclusion of 1 on that pair, with both sides evaluated: the probabilistic state 1 of
`exG` (state 2 of `exG'`, row reordered) has reward 2 and Bellman value `2 + 8·1/2 + 7·1/2`; the
Player-1 state 0 (row reordered) has `1 + max(0, 6, 7)` -/
example :
    Brew exG'.owners exG'.rewards exG'.tl #[5, 7, 6, 8] (exπ 1)
      = Brew exG.owners exG.rewards exG.tl #[5, 6, 7, 8] 1 ∧
    Brew exG.owners exG.rewards exG.tl #[5, 6, 7, 8] 1 = 19 / 2 ∧
    Brew exG'.owners exG'.rewards exG'.tl #[5, 7, 6, 8] (exπ 0)
      = Brew exG.owners exG.rewards exG.tl #[5, 6, 7, 8] 0 ∧
    Brew exG.owners exG.rewards exG.tl #[5, 6, 7, 8] 0 = 8 := by
  have hx : ∀ s < exG.owners.size,
      (#[5, 7, 6, 8] : Array Rat).getD (exπ s) 0 = (#[5, 6, 7, 8] : Array Rat).getD s 0 :=
    by decide +kernel
  exact ⟨brew_eq exG_rewRel hx (by decide), by decide +kernel,
    brew_eq exG_rewRel hx (by decide), by decide +kernel⟩

/-- a second pair: `exH'` re-presents the five-state game `exH` (states 1 and 2 swapped, the
rows of the Player-1, the probabilistic AND the Player-2 state reordered, all actions renamed) -/
example : Presents exπ exρ exH exH' ∧ C01.WF exH := ⟨exH_presents, exH_wf⟩

/-- 1' on the second pair, at the Player-2 state 2 of `exH` (state 1 of `exH'`): its row
`[u → 3, d → 1]` is presented as `[z_d → 2, z_u → 3]`, so the two minima are started at
DIFFERENT transitions; both are `3 + min(8, 6)` -/
example :
    Brew exH'.owners exH'.rewards exH'.tl #[5, 7, 6, 8, 9] (exπ 2)
      = Brew exH.owners exH.rewards exH.tl #[5, 6, 7, 8, 9] 2 ∧
    Brew exH.owners exH.rewards exH.tl #[5, 6, 7, 8, 9] 2 = 9 :=
  ⟨brew_equivariant_of_presents exH_presents (tgtOk_of_wf exH_wf)
    (x := #[5, 6, 7, 8, 9]) (x' := #[5, 7, 6, 8, 9]) (by decide +kernel) 2 (by decide),
    by decide +kernel⟩

/-- 2 on the second pair: `[4, 2, 3, 0, 0]` solves the reward equations of the conditioned lists
of `exH` exactly, hence `[4, 3, 2, 0, 0]` those of any related lists -/
example (nodes' : Array (List (Tr Rat)))
    (h : RewRel exπ exρ exH.owners exH'.owners exH.rewards exH'.rewards exHnodes nodes') :
    ExactRew exH.owners exH.rewards exHnodes #[4, 2, 3, 0, 0] ∧
      ExactRew exH'.owners exH'.rewards nodes' #[4, 3, 2, 0, 0] := by
  have hex : ExactRew exH.owners exH.rewards exHnodes #[4, 2, 3, 0, 0] :=
    (C02.exactRew_iff _).mpr (by decide +kernel)
  exact ⟨hex, (exactRew_iff h (w := #[4, 2, 3, 0, 0]) (w' := #[4, 3, 2, 0, 0])
    (by decide +kernel)).mpr hex⟩

/-- 3–5 on the second pair.  All hypotheses hold together for the two runs of `solve` (rounding
to 6 digits, threshold 0, pruning on) on `exH` and `exH'`: both reachability phases end with a
sweep that changes nothing, the conditioned lists of `exH` are ranked (`rkH`, bound 2), and with
threshold 0 both reward loops end with a sweep that changes nothing.  The conclusions — obtained
from the theorems, not by evaluation — are what the two concrete reports show: expected rewards
`[4, 2, 3, 0, 0]` and `[4, 3, 2, 0, 0]`, final strategies `r`, `u` and `z_r`, `z_u`; the dead sink 4
is emptied in both. -/
example : ∃ out out' : SolveOut Rat,
    solve (roundRat 6) (0 : Rat) 10 true exH = .ok out ∧
    solve (roundRat 6) (0 : Rat) 10 true exH' = .ok out' ∧
    RewRel exπ exρ exH.owners exH'.owners exH.rewards exH'.rewards out.nodes out'.nodes ∧
    (∀ s < 5, out'.rewards.getD (exπ s) 0 = out.rewards.getD s 0) ∧
    (∀ s < 5, StratPerm exρ (out.finalStrat.getD s none) (out'.finalStrat.getD (exπ s) none)) ∧
    out.rewards = #[4, 2, 3, 0, 0] ∧ out'.rewards = #[4, 3, 2, 0, 0] ∧
    out.nodes.getD 4 [] = [] ∧ out'.nodes.getD 4 [] = [] ∧
    out.finalStrat = #[some ["r"], none, some ["u"], none, none] ∧
    out'.finalStrat = #[some ["z_r"], some ["z_u"], none, none, none] := by
  obtain ⟨out, out', ro, ro', H, H', Hr, Hr', hsw, hsw', hrk, h1, h1', hn, hn', hf, hf'⟩ :=
    exH_runs
  have hrel := nodes_equivariant_of_exact exH_presents exH_wf H H' Hr Hr' _ hsw _ hsw'
  obtain ⟨hrew, hfin⟩ := reports_equivariant_of_exactRew H H' hrel hrk
    (C02.rew_exact_of_ranked_thr_zero rfl H hrk).1
    (C02.rew_exact_of_ranked_thr_zero rfl H' (ranked_push hrel hrk)).1
  exact ⟨out, out', H, H', hrel, hrew, hfin, h1, h1', by rw [hn]; rfl, by rw [hn']; rfl, hf, hf'⟩

/-- 5' on the second pair, at the Player-1 state 0: rounding to 6 digits is strictly monotone on
the exact rewards 2, 3 of its successors, so the final strategy of state 0 of `exH'` is a
permutation of the renamed list of the optimal actions of state 0 of `exH` (here `["z_r"]`) -/
example : ∃ out out' : SolveOut Rat,
    solve (roundRat 6) (0 : Rat) 10 true exH = .ok out ∧
    solve (roundRat 6) (0 : Rat) 10 true exH' = .ok out' ∧
    ∃ l', out'.finalStrat.getD (exπ 0) none = some l' ∧
      l'.Perm ((((out.nodes.getD 0 []).filter (fun t => decide (∀ t' ∈ out.nodes.getD 0 [],
        out.rewards.getD t'.tgt 0 ≤ out.rewards.getD t.tgt 0))).map (·.act)).map exρ) := by
  obtain ⟨out, out', ro, ro', H, H', Hr, Hr', hsw, hsw', hrk, h1, h1', hn, hn', hf, hf'⟩ :=
    exH_runs
  have hc := Or.inr (a := 2 + 1 ≤ out.itRew) (solve_thr_zero_sweep H rfl)
  have hc' := Or.inr (a := 2 + 1 ≤ out'.itRew) (solve_thr_zero_sweep H' rfl)
  have hrk' := ranked_push (nodes_equivariant_of_exact exH_presents exH_wf H H' Hr Hr'
    _ hsw _ hsw') hrk
  refine ⟨out, out', H, H', (final_strategies_optimal_equivariant exH_presents exH_wf H H' Hr Hr'
    _ hsw _ hsw' hrk hrk' hc hc' 0 (by decide) ?_).1 rfl ?_⟩
  · rw [hn, h1]; decide +kernel
  · rw [hn, h1]; decide +kernel

end NonVacuity

end CR.C13
