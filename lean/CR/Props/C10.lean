/-
Property C10 — the caller's game description is left alone, and solving is repeatable.

"Solving a game never changes the rewards, players, transition lists or final states the caller
passed in, and solving the same description again - through the same object or a fresh one, in
either pruning mode, in any order - returns identical results."

The pure model (`CR.Model.Solver`) has no notion of object identity, so it cannot even express
the aliasing between a node's `next_states` attribute and the caller's inner list.  The aliasing
model (`CR.Model.Heap`) can: `HState.desc` are the caller's list objects, `HState.nodes` says
where each node's attribute points.  `conditionHS`/`solveHS` return the heap (resp. the caller's
lists) as it is when the phase ends, normally or with a pending exception; `conditionH`/`solveH`
are their `Except` projections.  Rewards, players and final states are immutable values of the
model (`Game.rewards`, `Game.owners`, `Game.finals`): no operation of the model writes them.

All theorems are generic in the number type and the rounding function and need no
well-formedness hypothesis on the game.
-/
import CR.Lemmas.Heap
import CR.Lemmas.Runs

namespace CR.Heap
open CR CR.Examples

/-- a 3-state game: state 0 is probabilistic with one dead (state 1, a sink) and one live
successor (the final state 2) -/
def gDead : Game Rat where
  rewards := #[0, 0, 0]
  owners := #[.prob, .prob, .prob]
  tl := #[[tr "" (1/2) 1, tr "" (1/2) 2], [tr "" 1 1], [tr "" 1 2]]
  finals := [2]

/-- a transition as a tuple, for the comparisons of the examples -/
def key (t : Tr Rat) : String × Rat × Nat := (t.act, t.p, t.tgt)

end CR.Heap

namespace CR.C10
open CR CR.Heap

section
variable {α : Type} [Add α] [Sub α] [Mul α] [Div α] [Neg α] [LT α] [DecidableLT α]
  [LE α] [DecidableLE α] [BEq α] [OfNat α 0] [OfNat α 1]

set_option linter.unusedSectionVars false

/-! ### 1. no operation of the current code touches the caller's list objects -/

/-- C10.1 — the heap at the end of the conditioning phase — whether it ended normally or with an
exception pending — has the caller's lists unchanged. -/
theorem conditionHS_preserves_desc (prune : Bool) (g : Game α) (strat : Array Strat)
    (reach : Array α) (h : HState α) :
    (conditionHS prune g strat reach h).1.desc = h.desc :=
  conditionHS_desc prune g strat reach h

/-- C10.1 for the `Except` projection. -/
theorem conditionH_preserves_desc {prune : Bool} {g : Game α} {strat : Array Strat}
    {reach : Array α} {h h' : HState α} (hc : conditionH prune g strat reach h = .ok h') :
    h'.desc = h.desc := by
  have hd := conditionHS_desc prune g strat reach h
  unfold conditionH HRes.toExcept at hc
  split at hc
  · cases hc; exact hd
  · cases hc

/-! ### 2. the pure model is a sound abstraction of the aliasing model -/

/-- C10.2 — started from `init_states` (every node aliasing the caller's list), the aliasing
model and the pure `condition` agree on what every node holds afterwards. -/
theorem conditionH_refines {prune : Bool} {g : Game α} {strat : Array Strat} {reach : Array α}
    {h' : HState α} (hc : conditionH prune g strat reach (HState.init g.tl) = .ok h') :
    ∃ nodes, condition prune g strat reach = .ok nodes ∧ nodes.size = h'.nodes.size ∧
      ∀ s, s < nodes.size → h'.read s = nodes.getD s [] := by
  have hv := conditionH_init_view prune g strat reach
  rw [hc] at hv
  exact ⟨h'.view, hv.symm, HState.view_size h', fun s _ => (HState.view_getD h' s).symm⟩

/-- C10.2, converse direction: whenever the pure `condition` succeeds so does the aliasing
model, with the same node lists. -/
theorem conditionH_complete {prune : Bool} {g : Game α} {strat : Array Strat} {reach : Array α}
    {nodes : Array (List (Tr α))} (hc : condition prune g strat reach = .ok nodes) :
    ∃ h', conditionH prune g strat reach (HState.init g.tl) = .ok h' ∧ h'.view = nodes ∧
      h'.desc = g.tl := by
  rw [← conditionH_init_view, map_eq_ok] at hc
  obtain ⟨h', hh, hv⟩ := hc
  exact ⟨h', hh, hv, conditionH_preserves_desc hh⟩

/-- C10.2 — the two models raise the same exceptions. -/
theorem conditionH_error_iff {prune : Bool} {g : Game α} {strat : Array Strat} {reach : Array α}
    {e : Err} :
    conditionH prune g strat reach (HState.init g.tl) = .error e ↔
      condition prune g strat reach = .error e := by
  rw [← conditionH_init_view, map_eq_error]

/-! ### 3. `solve` leaves the description alone -/

/-- C10.3 — after `solve()` — whether it returned or raised — the caller's transition lists are
the ones passed in. -/
theorem solveHS_preserves_description (rnd : α → Int) (thr : α) (fuel : Nat) (prune : Bool)
    (g : Game α) : (solveHS rnd thr fuel prune g).2 = g.tl :=
  congrArg Prod.snd (solveHS_eq rnd thr fuel prune g)

/-- C10.3 for the `Except` projection. -/
theorem solve_preserves_description {rnd : α → Int} {thr : α} {fuel : Nat} {prune : Bool}
    {g : Game α} {out : SolveOut α} {desc' : Array (List (Tr α))}
    (h : solveH rnd thr fuel prune g = .ok (out, desc')) : desc' = g.tl := by
  rw [solveH_eq, map_eq_ok] at h
  obtain ⟨_, _, e⟩ := h
  exact (congrArg Prod.snd e).symm

/-! ### 4. every theorem about `solve` applies to the aliasing model -/

/-- C10.4 — outcome (result or exception) of the aliasing model = outcome of the pure model. -/
theorem solveHS_refines (rnd : α → Int) (thr : α) (fuel : Nat) (prune : Bool) (g : Game α) :
    (solveHS rnd thr fuel prune g).1 = solve rnd thr fuel prune g :=
  congrArg Prod.fst (solveHS_eq rnd thr fuel prune g)

theorem solveH_refines {rnd : α → Int} {thr : α} {fuel : Nat} {prune : Bool} {g : Game α}
    {out : SolveOut α} {d : Array (List (Tr α))} :
    solveH rnd thr fuel prune g = .ok (out, d) ↔
      (solve rnd thr fuel prune g = .ok out ∧ d = g.tl) := by
  rw [solveH_eq, map_eq_ok]
  constructor
  · rintro ⟨o, ho, e⟩
    cases e
    exact ⟨ho, rfl⟩
  · rintro ⟨ho, rfl⟩
    exact ⟨out, ho, rfl⟩

theorem solveH_error_iff {rnd : α → Int} {thr : α} {fuel : Nat} {prune : Bool} {g : Game α}
    {e : Err} :
    solveH rnd thr fuel prune g = .error e ↔ solve rnd thr fuel prune g = .error e := by
  rw [solveH_eq, map_eq_error]

/-! ### 5. repeatability -/

/-- C10.5 — any sequence of `solve()` calls on one description object, in any order of pruning
modes, each call working on the lists as the previous call (successful or not) left them: the
outcome of every call is the outcome of `solve` in that call's mode on the ORIGINAL
description. -/
theorem solve_repeatable (rnd : α → Int) (thr : α) (fuel : Nat) (g : Game α)
    (modes : List Bool) :
    runOps rnd thr fuel g modes g.tl = modes.map (fun m => solve rnd thr fuel m g) := by
  induction modes with
  | nil => rfl
  | cons m ms ih =>
    have hg : ({ g with tl := g.tl } : Game α) = g := rfl
    unfold runOps
    simp only [List.map_cons]
    rw [hg, solveHS_eq, ih]

/-- C10.5, pointwise: the `k`-th outcome depends on the `k`-th mode only — two calls in the same
mode return identical outcomes wherever they occur in the sequence. -/
theorem solve_repeatable_get (rnd : α → Int) (thr : α) (fuel : Nat) (g : Game α)
    (modes : List Bool) (k : Nat) :
    (runOps rnd thr fuel g modes g.tl)[k]? =
      modes[k]?.map (fun m => solve rnd thr fuel m g) := by
  rw [solve_repeatable, List.getElem?_map]

theorem solve_repeatable_same_mode (rnd : α → Int) (thr : α) (fuel : Nat) (g : Game α)
    (modes : List Bool) (i j : Nat) (m : Bool) (hi : modes[i]? = some m) (hj : modes[j]? = some m) :
    (runOps rnd thr fuel g modes g.tl)[i]? = (runOps rnd thr fuel g modes g.tl)[j]? := by
  rw [solve_repeatable_get, solve_repeatable_get, hi, hj]

end

/-! ### 6. the repaired defect, and non-vacuity -/

open Examples

/-- the OLD pruning (in-place removal) edits the caller's lists: afterwards the description of
state 0 says `[(1/2, 2)]` — not even a distribution — instead of `[(1/2, 1), (1/2, 2)]`, and
the sink state 1 (whose only successor, itself, is dead) has lost its transitions altogether, so
that a second `solve()` on this description is rejected with "Missing transitions". -/
example : ∃ h', conditionH_old true gDead #[none, none, none] #[1/2, 0, 1]
      (HState.init gDead.tl) = .ok h' ∧
    h'.desc.map (·.map key) = #[[("", 1/2, 2)], [], [("", 1, 2)]] ∧
    h'.desc ≠ gDead.tl := by
  obtain ⟨h', h1, h2⟩ := exists_ok_of_toOption_map
    (r := conditionH_old true gDead #[none, none, none] #[1/2, 0, 1] (HState.init gDead.tl))
    (f := fun h => h.desc.map (·.map key))
    (x := #[[("", 1/2, 2)], [], [("", 1, 2)]]) (by decide +kernel)
  refine ⟨h', h1, h2, fun heq => ?_⟩
  rw [heq] at h2
  revert h2
  decide +kernel

/-- the CURRENT pruning on the same game: node 0 ends up with the renormalised list
`[(1, 2)]`, node 1 with `[]`, and the caller's lists are untouched. -/
example : ∃ h', conditionH true gDead #[none, none, none] #[1/2, 0, 1]
      (HState.init gDead.tl) = .ok h' ∧
    h'.view.map (·.map key) = #[[("", 1, 2)], [], [("", 1, 2)]] ∧
    h'.desc = gDead.tl := by
  obtain ⟨h', h1, h2⟩ := exists_ok_of_toOption_map
    (r := conditionH true gDead #[none, none, none] #[1/2, 0, 1] (HState.init gDead.tl))
    (f := fun h => h.view.map (·.map key))
    (x := #[[("", 1, 2)], [], [("", 1, 2)]]) (by decide +kernel)
  exact ⟨h', h1, h2, conditionH_preserves_desc h1⟩

/-- non-vacuity: a concrete pruned `solveH` run (7-state game; the probabilistic state 1 loses
its dead successor 4 and is rebound to the renormalised list, the states 2, 4, 6 are cleared),
evaluated in the aliasing model itself: it returns, and the caller's lists afterwards are the
original ones. -/
example : ∃ out d, solveH (roundRat 6) thr 1000 true g7 = .ok (out, d) ∧
    out.rewards = #[2, 2, 0, 2, 0, 0, 0] ∧
    out.nodes.map (·.map key) =
      #[[("alfa", 0, 1)], [("", 1, 3)], [], [("gamma", 0, 5)], [], [("", 1, 5)], []] ∧
    d.map (·.map key) = g7.tl.map (·.map key) ∧ d = g7.tl := by
  obtain ⟨⟨out, d⟩, h1, h2⟩ := exists_ok_of_toOption_map
    (r := solveH (roundRat 6) thr 1000 true g7)
    (f := fun r => decide (r.1.rewards = #[2, 2, 0, 2, 0, 0, 0]) &&
      decide (r.1.nodes.map (·.map key) =
        #[[("alfa", 0, 1)], [("", 1, 3)], [], [("gamma", 0, 5)], [], [("", 1, 5)], []]) &&
      decide (r.2.map (·.map key) = g7.tl.map (·.map key)))
    (x := true)
    (by unfold solveH solveHS; rw [g7_reach_true]; decide +kernel)
  simp only [Bool.and_eq_true, decide_eq_true_eq] at h2
  exact ⟨out, d, h1, h2.1.1, h2.1.2, h2.2, solve_preserves_description h1⟩

/-- non-vacuity of C10.5: pruned, unpruned, pruned again on the same description object — the
first and the third outcome are the same successful result. -/
example : ∃ o1 o2, runOps (roundRat 6) thr 1000 g7 [true, false, true] g7.tl =
    [.ok o1, .ok o2, .ok o1] ∧ o1.rewards = #[2, 2, 0, 2, 0, 0, 0] ∧
      o2.rewards = #[3/2, 3/2, 0, 2, 0, 0, 0] := by
  refine ⟨g7out_true, g7out_false, ?_, rfl, rfl⟩
  rw [solve_repeatable]
  simp only [List.map_cons, List.map_nil, g7_solve_true, g7_solve_false]

end CR.C10
