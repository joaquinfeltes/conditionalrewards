/-
Property C13: presentation independence.

"Renumbering the states (keeping the initial state first), reordering the transitions inside any
state, or renaming actions consistently changes the reported probabilities and expected rewards
only by the corresponding renumbering (within convergence tolerance), changes strategies only by
the renaming, and never changes whether the game is declared solvable."

The property is decided by refinement to PRESENTATION-INDEPENDENT SPECIFICATIONS: a
re-presentation `Presents π ρ g g'` (`CR/Lemmas/Equiv.lean`: `π` a permutation of `0..n-1` with
`π 0 = 0`, every row of `g'` a `List.Perm` of the renamed / renumbered row of `g`, `ρ` injective)
commutes with every specification the other property theorems relate the solver's output to:

1. graph reachability and hence the set of states value iteration sweeps (`reverseDfs`, via C07);
2. the Bellman operator `C01.Bell` (max / min over a permuted list; the weighted SUM over a
   permuted list is equal in a field — this is where exact arithmetic is used);
3. pre-fixed points and the least one, `C01.IsValue` = the value; the zero set; solvability;
4. the sets of value-optimal actions (the `ρ`-image);
5. two runs whose last sweep changed nothing report vectors related exactly by `π`;
6. the conditioned rows `condRow` of C03 (a permutation of the renamed / renumbered row);
7. the reported strategy lists (same rounding function, exactly related vectors): a permutation
   of the renamed list.

Hypotheses beyond `Presents`: `TgtOk g` (one row per state, all targets are states — what
`check_game` / `init_states` guarantee, implied by `C01.WF g`).  Without it a target `≥ n` would
be read as value 0 in `g` but `π` is unconstrained outside `0..n-1`.  No range hypothesis on the
final states is needed (`finals` relates them on `0..n-1`; a final state of `g'` outside
`0..n-1` is not reachable and never read).

NOT proved here (and not true as an exact statement):
* equality of the two FLOATING-POINT runs: reordering a row changes the order of the weighted
  sum and hence the rounding; the Gauss–Seidel sweep order (ascending state index) also changes
  under renumbering, so intermediate iterates differ even in exact arithmetic;
* equality of two residual-stopped runs that have not converged exactly.  What is provable is the
  sandwich `both_below_same_value`: both reports are lower bounds of the SAME value
  (`r.probs[s] ≤ v[s]` and `r'.probs[π s] ≤ v[s]`), each within its own stopping residual
  (C01.reach_residual_le_thr) of a Bellman fixed point;
* equality of the strategy LISTS: `bestStrat` lists actions in row order, so after a reorder the
  list is a permutation of the renamed list (7), not the renamed list itself; and for runs that
  are only close (not exactly related by `π`) the ROUNDED values compared by `bestStrat` may tie
  in one presentation and not in the other, so nothing is claimed there;
* the expected-reward phase (`viRew`) is the subject of `CR.Props.C13Rew`; of it only the input, the
  conditioned rows, is treated here (6, 7'').
-/
import CR.Lemmas.Equiv
import Mathlib.Data.Set.Image

namespace CR.C13

open CR CR.Present

variable {K : Type} [Field K] [LinearOrder K] [IsStrictOrderedRing K]
variable {π : Nat → Nat} {ρ : String → String} {g g' : Game K}

/-- 1. graph reachability commutes with the renumbering -/
theorem reach_equivariant (h : Presents π ρ g g') (hr : TgtOk g) :
    ∀ s < g.owners.size, ∀ t < g.owners.size,
      (C07.Reach (targets g) s t ↔ C07.Reach (targets g') (π s) (π t)) := by
  intro s hs t ht
  refine ⟨reach_push h hr hs, fun he => ?_⟩
  obtain ⟨t', ht', heq, hst⟩ := reach_pull h hr hs he
  rwa [h.inj t ht t' ht' heq]

/-- 1'. the set of states value iteration updates (`ReachOut.order`) is the renumbered set -/
theorem dfs_equivariant (h : Presents π ρ g g') (hr : TgtOk g) :
    ∀ s < g.owners.size,
      (s ∈ VI.gameOrder g ↔ π s ∈ VI.gameOrder g') := by
  intro s hs
  have hr' := h.tgtOk hr
  rw [C01.gameOrder_mem_iff hr.1 hr.2, C01.gameOrder_mem_iff hr'.1 hr'.2, h.finals s hs]
  refine and_congr_right (fun _ => ⟨?_, ?_⟩)
  · rintro ⟨f, hf, hsf⟩
    have hflt := reach_lt hr hs hsf
    exact ⟨π f, (h.finals f hflt).mpr hf, reach_push h hr hs hsf⟩
  · rintro ⟨f', hf', hsf'⟩
    obtain ⟨f, hflt, rfl, hsf⟩ := reach_pull h hr hs hsf'
    exact ⟨f, (h.finals f hflt).mp hf', hsf⟩

/-- 1''. ... stated for the `order` fields of two successful runs -/
theorem order_equivariant (h : Presents π ρ g g') (hr : TgtOk g)
    {rnd rnd' : K → Int} {thr thr' : K} {fuel fuel' : Nat} {prune prune' : Bool}
    {r r' : ReachOut K} (H : solveReach rnd thr fuel prune g = .ok r)
    (H' : solveReach rnd' thr' fuel' prune' g' = .ok r') :
    ∀ s < g.owners.size, (s ∈ r.order ↔ π s ∈ r'.order) := by
  rw [solveReach_order H, solveReach_order H']
  exact dfs_equivariant h hr

/-- 2. the Bellman operator commutes with the renumbering (for ANY `x'` that agrees with `x`
along `π`) -/
theorem bell_equivariant (h : Presents π ρ g g') (hr : TgtOk g) {x x' : Array K}
    (hx : ∀ s < g.owners.size, x'.getD (π s) 0 = x.getD s 0) :
    ∀ s < g.owners.size, C01.Bell g' x' (π s) = C01.Bell g x s :=
  fun _ hs => bell_eq h hr hx hs

/-- a transported vector always exists (`push`), and every vector of `g'` is the transport of
one of `g` (`pull`) -/
theorem transport_exists (h : Presents π ρ g g') :
    (∀ x : Array K, x.size = g.owners.size → ∃ x', Transports π g.owners.size x x') ∧
    (∀ x' : Array K, x'.size = g.owners.size → ∃ x, Transports π g.owners.size x x') :=
  ⟨fun _ hx => ⟨_, h.renum.transports_push hx⟩, fun _ hx' => ⟨_, transports_pull hx'⟩⟩

/-- 3a. pre-fixed points correspond -/
theorem prefixed_equivariant (h : Presents π ρ g g') (hr : TgtOk g) {y y' : Array K}
    (ht : Transports π g.owners.size y y') : C01.PreFixed g y ↔ C01.PreFixed g' y' :=
  (preFixed_iff h hr ht).symm

/-- 3. `v` is the value of `g` iff its transport is the value of `g'` -/
theorem value_equivariant (h : Presents π ρ g g') (hr : TgtOk g) {v v' : Array K}
    (ht : Transports π g.owners.size v v') : C01.IsValue g v ↔ C01.IsValue g' v' :=
  (isValue_iff h hr ht).symm

/-- 3'. ANY value of `g'` is the renumbering of ANY value of `g` (no transport hypothesis) -/
theorem value_unique_equivariant (h : Presents π ρ g g') (hr : TgtOk g) {v v' : Array K}
    (hv : C01.IsValue g v) (hv' : C01.IsValue g' v') :
    ∀ s < g.owners.size, v'.getD (π s) 0 = v.getD s 0 := by
  intro s hs
  have ht := h.renum.transports_push hv.1.1
  rw [← ht.getD s hs]
  exact C01.isValue_unique hv' ((isValue_iff h hr ht).mpr hv) _ (by rw [h.n_owners]; exact h.maps s hs)

/-- 3''. the zero set is the renumbered zero set, and whether the initial state has value 0 —
the condition under which the game is declared to have no solution — is presentation
independent -/
theorem zero_set_equivariant (h : Presents π ρ g g') (hr : TgtOk g) {v v' : Array K}
    (hv : C01.IsValue g v) (hv' : C01.IsValue g' v') :
    (∀ s < g.owners.size, (v'.getD (π s) 0 = 0 ↔ v.getD s 0 = 0)) ∧
    (v'.getD 0 0 = 0 ↔ v.getD 0 0 = 0) := by
  have hu := value_unique_equivariant h hr hv hv'
  refine ⟨fun s hs => by rw [hu s hs], ?_⟩
  by_cases hn : 0 < g.owners.size
  · rw [← hu 0 hn, h.fix0]
  · rw [getD_of_size_le v' 0 0 (by rw [hv'.1.1, h.n_owners]; omega),
      getD_of_size_le v 0 0 (by rw [hv.1.1]; omega)]

/-- the three ways 4 says "the image under an injective renaming" -/
theorem image_facts {S S' : Set String} (hρ : Function.Injective ρ) (himg : S' = ρ '' S) :
    (∀ a, a ∈ S ↔ ρ a ∈ S') ∧ (∀ b ∈ S', ∃ a ∈ S, b = ρ a) ∧ S' = ρ '' S := by
  subst himg
  exact ⟨fun a => hρ.mem_set_image.symm, fun b ⟨a, ha, e⟩ => ⟨a, ha, e.symm⟩, rfl⟩

/-- 4 (maximiser, Player 1). the value-optimal actions of `g'` at `π s` are exactly the renamed
value-optimal actions of `g` at `s` -/
theorem optimal_actions_equivariant (h : Presents π ρ g g') (hr : TgtOk g) {v v' : Array K}
    (hv : ∀ s < g.owners.size, v'.getD (π s) 0 = v.getD s 0) {s : Nat}
    (hs : s < g.owners.size) :
    (∀ a, a ∈ OptActsMax g v s ↔ ρ a ∈ OptActsMax g' v' (π s)) ∧
    (∀ b ∈ OptActsMax g' v' (π s), ∃ a ∈ OptActsMax g v s, b = ρ a) ∧
    OptActsMax g' v' (π s) = ρ '' OptActsMax g v s :=
  image_facts h.ρ_injective (optActsMax_image h hr hv hs)

/-- 4 (minimiser, Player 2) -/
theorem optimal_actions_equivariant_min (h : Presents π ρ g g') (hr : TgtOk g) {v v' : Array K}
    (hv : ∀ s < g.owners.size, v'.getD (π s) 0 = v.getD s 0) {s : Nat}
    (hs : s < g.owners.size) :
    (∀ a, a ∈ OptActsMin g v s ↔ ρ a ∈ OptActsMin g' v' (π s)) ∧
    (∀ b ∈ OptActsMin g' v' (π s), ∃ a ∈ OptActsMin g v s, b = ρ a) ∧
    OptActsMin g' v' (π s) = ρ '' OptActsMin g v s :=
  image_facts h.ρ_injective (optActsMin_image h hr hv hs)

section Runs
variable {rnd rnd' : K → Int} {thr thr' : K} {fuel fuel' : Nat} {prune prune' : Bool}
  {r r' : ReachOut K}

/-- well-formedness (`C01.WF`) is presentation independent, so it is assumed for `g` only -/
theorem wf_equivariant (h : Presents π ρ g g') (hwf : C01.WF g) : C01.WF g' := h.wf hwf

/-- 5. if in both presentations the last sweep of the reachability run changed nothing, the two
reports are related EXACTLY by the renumbering (both are the value of their game, and the value
is equivariant by 3) -/
theorem solve_equivariant_of_exact (h : Presents π ρ g g') (hwf : C01.WF g)
    (H : solveReach rnd thr fuel prune g = .ok r)
    (H' : solveReach rnd' thr' fuel' prune' g' = .ok r')
    (x : Array K) (hsw : sweepReach g.owners g.tl r.order x = (r.probs, 0))
    (x' : Array K) (hsw' : sweepReach g'.owners g'.tl r'.order x' = (r'.probs, 0)) :
    ∀ s < g.owners.size, r'.probs.getD (π s) 0 = r.probs.getD s 0 :=
  value_unique_equivariant h (tgtOk_of_wf hwf) (C01.isValue_of_zero_diff hwf H x hsw)
    (C01.isValue_of_zero_diff (h.wf hwf) H' x' hsw')

/-- 5'. ... consequently such runs agree on the zero set and on `probs[0] = 0`, the test that
makes `solveReach` (with `prune = true`) declare "no solution" -/
theorem solvable_equivariant_of_exact (h : Presents π ρ g g') (hwf : C01.WF g)
    (H : solveReach rnd thr fuel prune g = .ok r)
    (H' : solveReach rnd' thr' fuel' prune' g' = .ok r')
    (x : Array K) (hsw : sweepReach g.owners g.tl r.order x = (r.probs, 0))
    (x' : Array K) (hsw' : sweepReach g'.owners g'.tl r'.order x' = (r'.probs, 0)) :
    (r'.probs.getD 0 0 = 0 ↔ r.probs.getD 0 0 = 0) :=
  (zero_set_equivariant h (tgtOk_of_wf hwf) (C01.isValue_of_zero_diff hwf H x hsw)
    (C01.isValue_of_zero_diff (h.wf hwf) H' x' hsw')).2

/-- the sandwich for runs stopped by the residual test: both reports are lower bounds of the
same value -/
theorem both_below_same_value (h : Presents π ρ g g') (hwf : C01.WF g)
    (H : solveReach rnd thr fuel prune g = .ok r)
    (H' : solveReach rnd' thr' fuel' prune' g' = .ok r')
    (v : Array K) (hv : C01.IsValue g v) :
    ∀ s < g.owners.size, r.probs.getD s 0 ≤ v.getD s 0 ∧ r'.probs.getD (π s) 0 ≤ v.getD s 0 := by
  intro s hs
  have ht := h.renum.transports_push hv.1.1
  have hv' := (isValue_iff h (tgtOk_of_wf hwf) ht).mpr hv
  refine ⟨C01.reach_le_value hwf H v hv s hs, ?_⟩
  rw [← ht.getD s hs]
  exact C01.reach_le_value (h.wf hwf) H' _ hv' _ (by rw [h.n_owners]; exact h.maps s hs)

/-- the zero set of the value bounds both reports: where the value is 0 both presentations
report exactly 0 -/
theorem both_zero_where_value_zero (h : Presents π ρ g g') (hwf : C01.WF g)
    (H : solveReach rnd thr fuel prune g = .ok r)
    (H' : solveReach rnd' thr' fuel' prune' g' = .ok r')
    (v : Array K) (hv : C01.IsValue g v) :
    ∀ s < g.owners.size, v.getD s 0 = 0 →
      r.probs.getD s 0 = 0 ∧ r'.probs.getD (π s) 0 = 0 := by
  intro s hs hz
  obtain ⟨h1, h2⟩ := both_below_same_value h hwf H H' v hv s hs
  rw [hz] at h1 h2
  exact ⟨le_antisymm h1 (C01.reach_range hwf H s).1,
    le_antisymm h2 (C01.reach_range (h.wf hwf) H' _).1⟩

end Runs

/-- 6'. the conditioned rows correspond (6, `Present.condRow_perm`), hence the conditioned games
again present each other: `Presents` is preserved by conditioning (rows only; owners, rewards,
finals are untouched by conditioning) -/
theorem cond_presents (h : Presents π ρ g g') (hr : TgtOk g) {reach reach' : Array K}
    (hx : ∀ s < g.owners.size, reach'.getD (π s) 0 = reach.getD s 0)
    {st st' : Array Strat} (hst : StratRel π ρ g.owners.size st st')
    {nodes nodes' : Array (List (Tr K))} (hsz : nodes.size = g.tl.size)
    (hsz' : nodes'.size = g'.tl.size)
    (hn : ∀ s < g.owners.size, nodes.getD s [] = condRow g st reach s)
    (hn' : ∀ s < g.owners.size, nodes'.getD (π s) [] = condRow g' st' reach' (π s)) :
    Presents π ρ { g with tl := nodes } { g' with tl := nodes' } :=
  { h with
    n_tl := by rw [hsz', hsz]; exact h.n_tl
    rows := fun s hs => by
      show (nodes'.getD (π s) []).Perm ((nodes.getD s []).map (trMap π ρ))
      rw [hn s hs, hn' s hs]; exact condRow_perm h hr hx hst hs }

/-- 7. with the same rounding function and vectors that agree along `π`, the strategy entry
computed for `π s` in `g'` lists exactly the renamed actions of the entry for `s` in `g`, possibly
in a different order (`StratPerm`: both `none`, or both lists and one a `List.Perm` of the
`ρ`-image of the other) -/
theorem strategies_equivariant (h : Presents π ρ g g') (hr : TgtOk g) (rnd : K → Int)
    {x x' : Array K} (hx : ∀ s < g.owners.size, x'.getD (π s) 0 = x.getD s 0) :
    ∀ s < g.owners.size,
      StratPerm ρ ((reachStrategies rnd g.owners g.tl x).getD s none)
        ((reachStrategies rnd g'.owners g'.tl x').getD (π s) none) :=
  fun s hs => reachStrategies_perm rnd (h.owners s hs) (h.rowRel hr hx hs)

/-- 7'. two exactly converged runs with the same rounding function report strategies that differ
only by the renaming (and the order inside a list) -/
theorem strategies_equivariant_of_exact {rnd : K → Int} {thr thr' : K} {fuel fuel' : Nat}
    {prune prune' : Bool} {r r' : ReachOut K} (h : Presents π ρ g g') (hwf : C01.WF g)
    (H : solveReach rnd thr fuel prune g = .ok r)
    (H' : solveReach rnd thr' fuel' prune' g' = .ok r')
    (x : Array K) (hsw : sweepReach g.owners g.tl r.order x = (r.probs, 0))
    (x' : Array K) (hsw' : sweepReach g'.owners g'.tl r'.order x' = (r'.probs, 0)) :
    ∀ s < g.owners.size, StratPerm ρ (r.strat.getD s none) (r'.strat.getD (π s) none) := by
  rw [solveReach_strat H, solveReach_strat H']
  exact strategies_equivariant h (tgtOk_of_wf hwf) rnd
    (solve_equivariant_of_exact h hwf H H' x hsw x' hsw')

/-- 7''. ... and therefore the conditioned games built from the two reports present each other
row by row (6 applied to the reports) -/
theorem cond_equivariant_of_exact {rnd : K → Int} {thr thr' : K} {fuel fuel' : Nat}
    {prune prune' : Bool} {r r' : ReachOut K} (h : Presents π ρ g g') (hwf : C01.WF g)
    (H : solveReach rnd thr fuel prune g = .ok r)
    (H' : solveReach rnd thr' fuel' prune' g' = .ok r')
    (x : Array K) (hsw : sweepReach g.owners g.tl r.order x = (r.probs, 0))
    (x' : Array K) (hsw' : sweepReach g'.owners g'.tl r'.order x' = (r'.probs, 0)) :
    ∀ s < g.owners.size,
      (condRow g' r'.strat r'.probs (π s)).Perm
        ((condRow g r.strat r.probs s).map (trMap π ρ)) :=
  fun _ hs => condRow_perm h (tgtOk_of_wf hwf)
    (solve_equivariant_of_exact h hwf H H' x hsw x' hsw')
    (stratRel_of_perm h.ρ_injective (strategies_equivariant_of_exact h hwf H H' x hsw x' hsw')) hs

section NonVacuity

/-- four states: 0 Player 1 (actions `l` to 1, `r` to 2), 1 probabilistic (1/2 to the final
state 3, 1/2 to 2), 2 Player 2 (`u` to 3, `d` to itself: value 0), 3 final and absorbing -/
def exG : Game Rat where
  rewards := #[1, 2, 3, 0]
  owners := #[.p1, .prob, .p2, .prob]
  tl := #[[⟨"l", 0, 1⟩, ⟨"r", 0, 2⟩], [⟨"a", 1/2, 3⟩, ⟨"a", 1/2, 2⟩],
          [⟨"u", 0, 3⟩, ⟨"d", 0, 2⟩], [⟨"a", 1, 3⟩]]
  finals := [3]

/-- the renumbering: swap states 1 and 2 -/
def exπ : Nat → Nat := fun s => if s = 1 then 2 else if s = 2 then 1 else s

def exρ : String → String := fun a => "z_" ++ a

/-- `exG` with states 1 and 2 swapped, the rows of (old) states 0 and 1 reordered, and every
action prefixed with `z_` -/
def exG' : Game Rat where
  rewards := #[1, 3, 2, 0]
  owners := #[.p1, .p2, .prob, .prob]
  tl := #[[⟨"z_r", 0, 1⟩, ⟨"z_l", 0, 2⟩], [⟨"z_u", 0, 3⟩, ⟨"z_d", 0, 1⟩],
          [⟨"z_a", 1/2, 1⟩, ⟨"z_a", 1/2, 3⟩], [⟨"z_a", 1, 3⟩]]
  finals := [3]

private theorem four {P : Nat → Prop} (h0 : P 0) (h1 : P 1) (h2 : P 2) (h3 : P 3) :
    ∀ s < 4, P s := by
  intro s hs
  have : s = 0 ∨ s = 1 ∨ s = 2 ∨ s = 3 := by omega
  rcases this with rfl | rfl | rfl | rfl <;> assumption

private theorem exPresents : Presents exπ exρ exG exG' where
  n_owners := rfl
  n_tl := rfl
  n_rewards := rfl
  maps := by decide +kernel
  inj := by decide +kernel
  fix0 := rfl
  owners := by decide +kernel
  rewards := by decide +kernel
  rows := by decide +kernel
  finals := by decide +kernel
  ρ_inj := fun _ _ hab => (String.append_right_inj "z_").mp hab

/-- the set-up is satisfiable: `exG'` re-presents `exG` (state swap, two rows reordered, all
actions renamed) -/
example : Presents exπ exρ exG exG' := exPresents

private theorem exWF : C01.WF exG := by decide +kernel

example : C01.WF exG := exWF

example : TgtOk exG := tgtOk_of_wf exWF

/-- a transported pair -/
example : Transports exπ 4 (#[5, 6, 7, 8] : Array Rat) #[5, 7, 6, 8] :=
  ⟨rfl, rfl, four rfl rfl rfl rfl⟩

/-- the conclusion of 2 on the example, with both sides evaluated: the probabilistic state 1 of
`exG` (state 2 of `exG'`) has Bellman value `8 · 1/2 + 7 · 1/2 = 15/2` -/
example : C01.Bell exG' #[5, 7, 6, 8] (exπ 1) = C01.Bell exG #[5, 6, 7, 8] 1 ∧
    C01.Bell exG #[5, 6, 7, 8] 1 = 15 / 2 :=
  ⟨bell_equivariant (x := #[5, 6, 7, 8]) (x' := #[5, 7, 6, 8]) exPresents
    (tgtOk_of_wf exWF) (four rfl rfl rfl rfl) 1 (by decide), by decide +kernel⟩

/-- related strategy tables: entry by entry one is a permutation of the renamed other -/
example : StratRel exπ exρ 4 #[some ["l"], none, some ["u", "d"], none]
    #[some ["z_l"], some ["z_d", "z_u"], none, none] :=
  stratRel_of_perm exPresents.ρ_injective
    (four (show List.Perm _ _ from by decide +kernel) trivial
      (show List.Perm _ _ from by decide +kernel) trivial)

/-! The hypotheses of 5 / 7' / 7'' (two successful runs whose last sweep changed nothing) are
satisfiable: with threshold 0 both presentations of the example stop after three sweeps, the
third of which changes nothing.  (`reverseDfs` is defined by well-founded recursion and does not
reduce in the kernel; its value comes from the budgeted copy, `RdfsLemmas.reverseDfs_eq_of`.) -/

private theorem exOrd : VI.gameOrder exG = [0, 1, 2] :=
  RdfsLemmas.reverseDfs_eq_of 20 (all := [2, 0, 1, 3]) (by decide +kernel) (by decide) (by decide)

private theorem exOrd' : VI.gameOrder exG' = [0, 1, 2] :=
  RdfsLemmas.reverseDfs_eq_of 20 (all := [2, 0, 1, 3]) (by decide +kernel) (by decide) (by decide)

def exR : ReachOut Rat :=
  ⟨#[1/2, 1/2, 0, 1], reachStrategies (fun _ => 0) exG.owners exG.tl #[1/2, 1/2, 0, 1], 3,
    [0, 1, 2]⟩

def exR' : ReachOut Rat :=
  ⟨#[1/2, 0, 1/2, 1], reachStrategies (fun _ => 0) exG'.owners exG'.tl #[1/2, 0, 1/2, 1], 3,
    [0, 1, 2]⟩

private theorem exRun : solveReach (fun _ => 0) (0 : Rat) 10 true exG = .ok exR := by
  unfold solveReach
  rw [show reverseDfs _ exG.finals = [0, 1, 2] from exOrd]
  decide +kernel

private theorem exRun' : solveReach (fun _ => 0) (0 : Rat) 10 true exG' = .ok exR' := by
  unfold solveReach
  rw [show reverseDfs _ exG'.finals = [0, 1, 2] from exOrd']
  decide +kernel

private theorem exSw : sweepReach exG.owners exG.tl exR.order exR.probs = (exR.probs, 0) := by
  decide +kernel

private theorem exSw' :
    sweepReach exG'.owners exG'.tl exR'.order exR'.probs = (exR'.probs, 0) := by
  decide +kernel

/-- all hypotheses of `solve_equivariant_of_exact` hold for the example -/
example : solveReach (fun _ => 0) (0 : Rat) 10 true exG = .ok exR ∧
    solveReach (fun _ => 0) (0 : Rat) 10 true exG' = .ok exR' ∧
    sweepReach exG.owners exG.tl exR.order exR.probs = (exR.probs, 0) ∧
    sweepReach exG'.owners exG'.tl exR'.order exR'.probs = (exR'.probs, 0) :=
  ⟨exRun, exRun', exSw, exSw'⟩

/-- ... and its conclusion is what the two concrete reports show: `[1/2, 1/2, 0, 1]` and
`[1/2, 0, 1/2, 1]` are related by the swap of states 1 and 2 -/
example : ∀ s < 4, exR'.probs.getD (exπ s) 0 = exR.probs.getD s 0 :=
  solve_equivariant_of_exact exPresents exWF exRun exRun' _ exSw _ exSw'

/-- the value of the example is `[1/2, 1/2, 0, 1]`, so the hypothesis `IsValue g v` of
`both_below_same_value` is satisfiable, and state 2 (Player 2 can stay forever) is in the zero
set while the initial state is not: the game is declared solvable in both presentations -/
example : C01.IsValue exG #[1/2, 1/2, 0, 1] ∧ C01.IsValue exG' #[1/2, 0, 1/2, 1] ∧
    exR.probs.getD 0 0 ≠ 0 ∧ exR'.probs.getD 0 0 ≠ 0 :=
  ⟨C01.isValue_of_zero_diff exWF exRun _ exSw,
    C01.isValue_of_zero_diff (wf_equivariant exPresents exWF) exRun' _ exSw',
    by decide +kernel, by decide +kernel⟩

/-- the reported strategies of the two runs (rounding function `fun _ => 0`, so every action
ties): `l, r` at state 0 become `z_r, z_l` — the renamed actions, in the order of the reordered
row -/
example : StratPerm exρ (exR.strat.getD 0 none) (exR'.strat.getD (exπ 0) none) ∧
    exR.strat.getD 0 none = some ["l", "r"] ∧ exR'.strat.getD 0 none = some ["z_r", "z_l"] :=
  ⟨strategies_equivariant_of_exact exPresents exWF exRun exRun' _ exSw _ exSw' 0 (by decide),
    by decide +kernel, by decide +kernel⟩

end NonVacuity

end CR.C13
