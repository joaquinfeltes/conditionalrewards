/-
C11 (structural part): every accepted parameter set yields three proper games.

For probabilities strictly between 0 and 1 in an ordered field and a well-formed board, each of
the generated games A, B, C (model: `CR/Model/Gen.lean`) has a non-empty row for every state,
all targets in range, proper distributions on the chance states, the winning state as the only
final state, absorbing winning and losing states, and passes the solver's typed validation
(`checkGame`, `initStates` of `CR/Model/Solver.lean`).  Helper lemmas: `CR/Lemmas/Grid.lean`.
-/
import CR.Props.C08
import Mathlib.Algebra.Order.Field.Basic
import Mathlib.Algebra.Order.Field.Rat

namespace CR.C11

open CR CR.Gen CR.Roborta CR.GridLemmas
open CR.C08 (N N_eq_nGroups b21 b12 b21_ok b12_ok)

theorem row_ok {α : Type} [Sub α] [OfNat α 0] [OfNat α 1] {v : Variant} {L W : Nat} {b : Board}
    (hb : BoardOK L W b) (q : Params α) {s : Nat} (hs : s < N v L W) :
    RowOK (N v L W) ((genGame v L W b q).tl.getD s []) := by
  rw [N_eq_nGroups] at hs ⊢
  exact tl_rows_ok hb q _ (getD_mem_of_lt _ s [] (by rwa [genGame_tl_length hb q]))

variable {K : Type} [Field K] [LinearOrder K] [IsStrictOrderedRing K]

omit [LinearOrder K] [IsStrictOrderedRing K] in
/-- 1. every state (reachable or not) has at least one transition -/
theorem gen_every_state_has_transition (v : Variant) (L W : Nat) (b : Board)
    (hb : BoardOK L W b) (pT pR pL : K) :
    ∀ s < N v L W, (genGame v L W b ⟨pT, pR, pL⟩).tl.getD s [] ≠ [] :=
  fun _ hs => (row_ok hb _ hs).1

omit [LinearOrder K] [IsStrictOrderedRing K] in
/-- 2. every target of every state is a state -/
theorem gen_targets_in_range (v : Variant) (L W : Nat) (b : Board)
    (hb : BoardOK L W b) (pT pR pL : K) :
    ∀ s < N v L W, ∀ t ∈ (genGame v L W b ⟨pT, pR, pL⟩).tl.getD s [], t.tgt < N v L W :=
  fun _ hs => (row_ok hb _ hs).2

/-- 3. the rows of the chance states are distributions with positive weights -/
theorem gen_prob_rows_proper (v : Variant) (L W : Nat) (b : Board)
    (hb : BoardOK L W b) (pT pR pL : K)
    (hT : 0 < pT ∧ pT < 1) (hR : 0 < pR ∧ pR < 1) (hL : 0 < pL ∧ pL < 1) :
    ∀ s < N v L W, (genGame v L W b ⟨pT, pR, pL⟩).owners.getD s .prob = .prob →
      (∀ t ∈ (genGame v L W b ⟨pT, pR, pL⟩).tl.getD s [], 0 < t.p) ∧
      (((genGame v L W b ⟨pT, pR, pL⟩).tl.getD s []).map (·.p)).sum = 1 := by
  intro s hs ho
  have hs' : s < nGroups v * (L * W) + 2 := N_eq_nGroups v L W ▸ hs
  rcases prob_rows_shape hb (⟨pT, pR, pL⟩ : Params K) s hs' ho with ⟨t, h⟩ | ⟨p, t, t', hp, h⟩
  · rw [h]
    exact ⟨List.forall_mem_singleton.2 one_pos, add_zero 1⟩
  · have hp' : 0 < p ∧ p < 1 := by
      rcases hp with rfl | rfl | rfl <;> assumption
    rw [h]
    refine ⟨List.forall_mem_cons.2 ⟨hp'.1, List.forall_mem_singleton.2 (sub_pos.2 hp'.2)⟩, ?_⟩
    show p + (1 - p + 0) = 1
    rw [add_zero, add_sub_cancel]

omit [LinearOrder K] [IsStrictOrderedRing K] in
/-- 4. the winning state is the only final state; the winning and the losing state are
absorbing and carry no reward -/
theorem gen_only_final_is_win_absorbing (v : Variant) (L W : Nat) (b : Board)
    (hb : BoardOK L W b) (pT pR pL : K) :
    (genGame v L W b ⟨pT, pR, pL⟩).finals = [N v L W - 1] ∧
    (genGame v L W b ⟨pT, pR, pL⟩).tl.getD (N v L W - 1) [] = [pr 1 (N v L W - 1)] ∧
    (genGame v L W b ⟨pT, pR, pL⟩).tl.getD (N v L W - 2) [] = [pr 1 (N v L W - 2)] ∧
    (genGame v L W b ⟨pT, pR, pL⟩).rewards.getD (N v L W - 1) 0 = 0 ∧
    (genGame v L W b ⟨pT, pR, pL⟩).rewards.getD (N v L W - 2) 0 = 0 := by
  obtain ⟨h1, h2, h3, h4⟩ := lose_win_rows (v := v) hb (⟨pT, pR, pL⟩ : Params K)
  rw [C08.N_sub_one, C08.N_sub_two, genGame_finals]
  exact ⟨rfl, h2, h1, h4, h3⟩

/-- 5. each generated game passes the solver's typed validation -/
theorem gen_validates (v : Variant) (L W : Nat) (b : Board)
    (hb : BoardOK L W b) (pT pR pL : K) :
    checkGame ((genGame v L W b ⟨pT, pR, pL⟩).toGame (fun n => (n : K))) = .ok () ∧
    initStates ((genGame v L W b ⟨pT, pR, pL⟩).toGame (fun n => (n : K))) = .ok () :=
  (genGame_wf hb _).validates _ fun n => not_lt.mpr (Nat.cast_nonneg n)

/-! ## Non-vacuity: the 2×1 and the 1×2 board of `CR.C08` over `Rat` -/

example : BoardOK 2 1 b21 := b21_ok
example : BoardOK 1 2 b12 := b12_ok

/-- the parameter hypotheses are satisfiable over `Rat` -/
example : (0 : Rat) < 1/10 ∧ (1/10 : Rat) < 1 := by constructor <;> decide +kernel

/-- instances of the five theorems on the 2×1 and the 1×2 board -/
example : ∀ s < 22, (gameC 2 1 b21 (1/10 : Rat) (1/5) (3/10)).tl.getD s [] ≠ [] :=
  gen_every_state_has_transition .C 2 1 b21 b21_ok _ _ _

example : ∀ s < 22, (gameC 2 1 b21 (1/10 : Rat) (1/5) (3/10)).owners.getD s .prob = .prob →
    (∀ t ∈ (gameC 2 1 b21 (1/10 : Rat) (1/5) (3/10)).tl.getD s [], 0 < t.p) ∧
    (((gameC 2 1 b21 (1/10 : Rat) (1/5) (3/10)).tl.getD s []).map (·.p)).sum = 1 :=
  gen_prob_rows_proper .C 2 1 b21 b21_ok _ _ _
    (by constructor <;> decide +kernel) (by constructor <;> decide +kernel)
    (by constructor <;> decide +kernel)

example : checkGame ((gameB 1 2 b12 (1/10 : Rat) (1/5)).toGame (fun n => (n : Rat))) = .ok () :=
  (gen_validates .B 1 2 b12 b12_ok (1/10) (1/5) (3/10)).1

/-- the unreachable `lr` state of the down-only tile (state 5) has the `Etha` row -/
example : (gameA 2 1 b21 (1/10 : Rat)).tl.getD 5 [] = [act "Etha" 0] := by rfl
/-- a chance row with two outcomes, and its owner -/
example : (gameA 2 1 b21 (1/10 : Rat)).tl.getD 6 [] = [pr (1/10) 8, pr (1 - 1/10) 0] := by rfl
example : (gameA 2 1 b21 (1/10 : Rat)).owners.getD 6 .prob = .prob := by rfl
example : (gameA 2 1 b21 (1/10 : Rat)).finals = [9] := by rfl
example : (gameA 2 1 b21 (1/10 : Rat)).rewards = [2, 0, 0, 0, 0, 0, 0, 0, 0, 0] := by rfl
example : (gameA 1 2 b12 (1/10 : Rat)).tl =
    [ [act "Green" 2, act "Yellow" 4], [act "Green" 3, act "Yellow" 5],
      [act "Down" 9], [act "Down" 9],
      [act "Left" 7], [act "Right" 6],
      [pr 1 0], [pr (1/10) 8, pr (1 - 1/10) 1],
      [pr 1 8], [pr 1 9] ] := by rfl
end CR.C11
