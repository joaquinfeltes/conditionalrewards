/-
C11 (text part): "the file written for a game denotes the game dict".

`roberta_generator.write_robot_A/B/C` write

    str(game).replace("[[", "[\n[").replace("], ", "],\n")
             .replace("[(", SIXTEEN_SPACES+"[(").replace("\n'", "\n" + TWELVE_SPACES + "'")

and the file is later read back with `eval`.  Model: `CR/Model/Text.lean` (`replaceAll` = Python's
`str.replace`, `surgery` = the four replacements, `renderLit` = Python's `repr` of the dict,
`stripWs` = the text without the blanks and newlines that stand outside string literals, i.e. the
token view that Python's parser sees inside a bracketed expression).  Helper lemmas:
`CR/Lemmas/Text.lean`.

Domain (`litOK`/`litWF`, `gameOK`; all decidable): string literals contain none of
`[ ] ( ) ' \ newline`; float texts contain no white space, bracket, parenthesis, quote (for
unique reading also no `, : { }`, are non-empty and not the text of an integer).
Trusted: Python's parser (that it ignores exactly the white space `stripWs` deletes), and that
`replaceAll` is Python's `str.replace` (differential test in the harness).
-/
import CR.Lemmas.Text

namespace CR.C11

open CR.Text CR.TextLemmas

/-- 1a. One `str.replace`.  If the pattern starts with a character that is neither a quote nor
allowed inside a string literal (so no match can start inside a literal), and the replacement text
has the same token view as the pattern (it differs by blanks/newlines outside literals only), then
for every text that is scanned safely from state `q` (`q` = "inside a literal") the token view is
unchanged. -/
theorem replaceAll_only_inserts_ws (p0 : Char) (pt rep : List Char)
    (h0 : inStrOK p0 = false) (hq : p0 ≠ '\'') (hrep : stripWs rep = stripWs (p0 :: pt))
    (q : Bool) (s : List Char) (hs : safeFrom q s = true) :
    stripAux q (replaceAll (p0 :: pt) rep s) = stripAux q s :=
  (replaceAll_scan p0 pt rep h0 hq hrep s.length q s (Nat.le_refl _) hs).1

/-- 1b. … and the result is again scanned safely (so replacements can be chained; the fourth
pattern `"\n'"` matches only text produced by the earlier replacements) -/
theorem replaceAll_keeps_safe (p0 : Char) (pt rep : List Char)
    (h0 : inStrOK p0 = false) (hq : p0 ≠ '\'') (hrep : stripWs rep = stripWs (p0 :: pt))
    (hsafe : safeFrom false rep = true) (q : Bool) (s : List Char) (hs : safeFrom q s = true) :
    safeFrom q (replaceAll (p0 :: pt) rep s) = true :=
  (replaceAll_scan p0 pt rep h0 hq hrep s.length q s (Nat.le_refl _) hs).2 hsafe

/-- 1c. the whole-text form of 1a -/
theorem replaceAll_stripWs (p0 : Char) (pt rep : List Char)
    (h0 : inStrOK p0 = false) (hq : p0 ≠ '\'') (hrep : stripWs rep = stripWs (p0 :: pt))
    (s : List Char) (hs : safeFrom false s = true) :
    stripWs (replaceAll (p0 :: pt) rep s) = stripWs s :=
  replaceAll_only_inserts_ws p0 pt rep h0 hq hrep false s hs

/-- 1d. the four replacements of the generator satisfy the hypotheses of 1a/1b -/
theorem surgery_patterns_ok :
    (inStrOK '[' = false ∧ inStrOK ']' = false ∧ inStrOK '\n' = false) ∧
    stripWs ['[', '\n', '['] = stripWs ['[', '['] ∧
    stripWs [']', ',', '\n'] = stripWs [']', ',', ' '] ∧
    stripWs (spaces 16 ++ ['[', '(']) = stripWs ['[', '('] ∧
    stripWs ('\n' :: (spaces 12 ++ ['\''])) = stripWs ['\n', '\''] ∧
    safeFrom false ['[', '\n', '['] = true ∧ safeFrom false [']', ',', '\n'] = true ∧
    safeFrom false (spaces 16 ++ ['[', '(']) = true ∧
    safeFrom false ('\n' :: (spaces 12 ++ ['\''])) = true := by decide

/-- 2a. the `repr` of a literal of the domain is scanned safely and ends outside a literal -/
theorem render_safe (l : Lit) (h : litOK l = true) :
    safeFrom false (renderLit l) = true ∧ endState false (renderLit l) = false :=
  ⟨(tok_render l h).1, (tok_render l h).2.1⟩

/-- 2b. the four replacements do not change the token view of a safely scanned text -/
theorem surgery_preserves_tokens_of_safe (s : List Char) (hs : safeFrom false s = true) :
    stripWs (surgery s) = stripWs s := by
  obtain ⟨⟨b1, b2, b3⟩, e1, e2, e3, e4, r1, r2, r3, _⟩ := surgery_patterns_ok
  have h1 := replaceAll_keeps_safe '[' _ _ b1 (by decide) e1 r1 false s hs
  have h2 := replaceAll_keeps_safe ']' _ _ b2 (by decide) e2 r2 false _ h1
  have h3 := replaceAll_keeps_safe '[' _ _ b1 (by decide) e3 r3 false _ h2
  rw [surgery, replaceAll_stripWs '\n' _ _ b3 (by decide) e4 _ h3,
    replaceAll_stripWs '[' _ _ b1 (by decide) e3 _ h2,
    replaceAll_stripWs ']' _ _ b2 (by decide) e2 _ h1,
    replaceAll_stripWs '[' _ _ b1 (by decide) e1 s hs]

/-- 2. the four replacements only insert white space between the tokens of the printed dict -/
theorem surgery_preserves_tokens (l : Lit) (h : litOK l = true) :
    stripWs (surgery (renderLit l)) = stripWs (renderLit l) :=
  surgery_preserves_tokens_of_safe _ (tok_render l h).1

/-- 2c. … in particular for the game dict -/
theorem surgery_preserves_game (rewards : List Int) (players : List String)
    (tl : List (List (Label × Nat))) (finals : List Nat) (h : gameOK players tl = true) :
    stripWs (surgery (renderLit (gameLit rewards players tl finals))) =
      stripWs (renderLit (gameLit rewards players tl finals)) :=
  surgery_preserves_tokens _ (litOK_of_litWF _ (gameLit_wf rewards players tl finals h))

/-- 3. the token view determines the literal -/
theorem stripWs_injective_on_render (a b : Lit) (wa : litWF a = true) (wb : litWF b = true)
    (h : stripWs (renderLit a) = stripWs (renderLit b)) : a = b := by
  rw [strip_render a (litOK_of_litWF a wa), strip_render b (litOK_of_litWF b wb)] at h
  exact renderC_inj a b wa wb h

/-- 3b. hence the written text determines the literal -/
theorem surgery_text_determines_literal (a b : Lit) (wa : litWF a = true) (wb : litWF b = true)
    (h : surgery (renderLit a) = surgery (renderLit b)) : a = b := by
  apply stripWs_injective_on_render a b wa wb
  rw [← surgery_preserves_tokens a (litOK_of_litWF a wa),
    ← surgery_preserves_tokens b (litOK_of_litWF b wb), h]

/-- 3c. … and the written text of a game determines rewards, players, transitions and final
states -/
theorem surgery_text_determines_game (r r' : List Int) (p p' : List String)
    (tl tl' : List (List (Label × Nat))) (f f' : List Nat)
    (h : gameOK p tl = true) (h' : gameOK p' tl' = true)
    (e : surgery (renderLit (gameLit r p tl f)) = surgery (renderLit (gameLit r' p' tl' f'))) :
    r = r' ∧ p = p' ∧ tl = tl' ∧ f = f' :=
  gameLit_inj (surgery_text_determines_literal _ _ (gameLit_wf r p tl f h)
    (gameLit_wf r' p' tl' f' h') e)

/-- `str.replace` is leftmost and non-overlapping (`+kernel`, here and below: the elaborator's evaluation of
string operations is several times dearer) -/
example : replaceAll "aa".toList "b".toList "aaaaa".toList = "bba".toList := by decide +kernel
example : replaceAll "], ".toList "],\n".toList "[[1]], [2], ".toList = "[[1]],\n[2],\n".toList := by
  decide +kernel
example : replaceAll [] "-".toList "abc".toList = "-a-b-c-".toList := by decide +kernel

/-- a game with two states: `str(game)` … -/
example :
    renderLit (gameLit [1, 0] ["Player 1", "Probabilistic"]
      [[(.act "a", 1), (.act "b", 0)], [(.num "0.5", 0), (.num "0.5", 1)]] [1]) =
    ("{'rewards': [1, 0], 'players': ['Player 1', 'Probabilistic'], " ++
     "'transition_list': [[('a', 1), ('b', 0)], [(0.5, 0), (0.5, 1)]], 'final_states': [1]}").toList := by
  -- `String.toList_ofList` first: evaluating `String.toList` on a literal is quadratic in its length
  rw [String.toList_append, String.toList_ofList, String.toList_ofList]
  decide +kernel

/-- … the text written to the file (newlines, 12 and 16 blanks exactly as Python produces) … -/
example :
    surgery (renderLit (gameLit [1, 0] ["Player 1", "Probabilistic"]
      [[(.act "a", 1), (.act "b", 0)], [(.num "0.5", 0), (.num "0.5", 1)]] [1])) =
    ("{'rewards': [1, 0],\n" ++
     "            'players': ['Player 1', 'Probabilistic'],\n" ++
     "            'transition_list': [\n" ++
     "                [('a', 1), ('b', 0)],\n" ++
     "                [(0.5, 0), (0.5, 1)]],\n" ++
     "            'final_states': [1]}").toList := by
  simp only [String.toList_append]
  repeat rw [String.toList_ofList]
  decide +kernel

/-- … and its token view, which is that of `str(game)` (the blank in `'Player 1'` stays) -/
example :
    stripWs (surgery (renderLit (gameLit [1, 0] ["Player 1", "Probabilistic"]
      [[(.act "a", 1), (.act "b", 0)], [(.num "0.5", 0), (.num "0.5", 1)]] [1]))) =
    ("{'rewards':[1,0],'players':['Player 1','Probabilistic']," ++
     "'transition_list':[[('a',1),('b',0)],[(0.5,0),(0.5,1)]],'final_states':[1]}").toList := by
  rw [String.toList_append, String.toList_ofList, String.toList_ofList]
  decide +kernel

example :
    stripWs (surgery (renderLit (gameLit [1, 0] ["Player 1", "Probabilistic"]
      [[(.act "a", 1), (.act "b", 0)], [(.num "0.5", 0), (.num "0.5", 1)]] [1]))) =
    stripWs (renderLit (gameLit [1, 0] ["Player 1", "Probabilistic"]
      [[(.act "a", 1), (.act "b", 0)], [(.num "0.5", 0), (.num "0.5", 1)]] [1])) :=
  surgery_preserves_game _ _ _ _ (by decide +kernel)

/-- outside the domain the statement fails: a bracket pair inside a string is torn apart -/
example : stripWs (surgery (renderLit (.str "[[ x"))) ≠ stripWs (renderLit (.str "[[ x")) := by
  decide +kernel

end CR.C11
