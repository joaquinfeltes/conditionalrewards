/-
Property C01 on ACYCLIC games: the tolerance clause made true.

"… every reported probability lies within the solver's convergence tolerance of the true value."
In general this clause is FALSE (`tolerance_clause_fails` in C01Neg.lean: the loop stops when one sweep
changes every entry by `≤ thr`, which bounds the Bellman residual, not the distance to the value).
On games that are acyclic apart from final and absorbing states it is TRUE, with the explicit
factor `rank + 1`, and after enough sweeps the report is exact.

`Absorbing`, `ReachRanked`, `ExactReach` and the helper lemmas: `CR/Lemmas/ReachRanked.lean`
(namespace `CR.ReachRank`).  On such a game the Bellman equations have exactly one solution that is
0 at the non-final absorbing states, and it is the value; the sweeps settle the states rank by rank.
The sweep visits `r.order` in ascending index order, not in topological order, which is why rank `k`
needs `k + 1` sweeps — the offset is sharp (last example: rank 2, two sweeps, not exact).  The error
bound `(rk s + 1) · thr` needs NO hypothesis on `thr`: `0 ≤ thr` holds on every `.ok` run
(`thr_nonneg_of_ok`), and for `thr ≥ 1` (the loop never ran) the residual bound
`reach_residual_le_thr` still holds.
-/
import CR.Lemmas.ReachRankedEx

namespace CR.C01

open CR CR.VI CR.ReachRank

variable {K : Type} [Field K] [LinearOrder K] [IsStrictOrderedRing K]

section Unique
variable {g : Game K} {rk : Nat → Nat} {R : Nat}

set_option linter.unusedSectionVars false in
/-- `ExactReach` spelled out -/
theorem exactReach_iff (w : Array K) :
    ExactReach g w ↔
      (∀ s < g.owners.size, Bell g w s = w.getD s 0) ∧
        ∀ s < g.owners.size, s ∉ g.finals →
          (g.tl.getD s [] ≠ [] ∧ ∀ t ∈ g.tl.getD s [], t.tgt = s) → w.getD s 0 = 0 :=
  Iff.rfl

set_option linter.unusedSectionVars false in
/-- `ReachRanked` spelled out -/
theorem reachRanked_iff :
    ReachRanked g rk R ↔
      (∀ s < g.owners.size, rk s ≤ R) ∧
        ∀ s < g.owners.size, s ∉ g.finals → ¬ Absorbing g s → ∀ t ∈ g.tl.getD s [],
          t.tgt < g.owners.size ∧ (t.tgt ∈ g.finals ∨ Absorbing g t.tgt ∨ rk t.tgt < rk s) :=
  ⟨fun h => ⟨h.bound, h.step⟩, fun h => ⟨h.1, h.2⟩⟩

set_option linter.unusedSectionVars false in
/-- at a final state the Bellman equation pins the value to 1 -/
theorem bell_fixed_final (w : Array K) (hw : ∀ s < g.owners.size, Bell g w s = w.getD s 0) :
    ∀ s < g.owners.size, s ∈ g.finals → w.getD s 0 = 1 :=
  fun _ hs hf => getD_final_of_fixed hw hs hf

/-- at an absorbing non-final state EVERY value in `[0, 1]` satisfies the Bellman equation (which
is why uniqueness is stated modulo the values at those states) -/
theorem bell_absorbing (hwf : WF g) (x : Array K) (s : Nat) (hs : s < g.owners.size)
    (hnf : s ∉ g.finals) (ha : Absorbing g s) (h0 : 0 ≤ x.getD s 0) (h1 : x.getD s 0 ≤ 1) :
    Bell g x s = x.getD s 0 := by
  rw [Bell_nonfinal x hnf]
  exact stepReach_const (hwf.rowNonneg s hs) (hwf.rowSumOne s hs) ha.1 x _ h0 h1
    fun t ht => by rw [ha.2 t ht]

set_option linter.unusedSectionVars false in
/-- 1'. on a reach-ranked game two fixed points of `Bell` that AGREE at the non-final absorbing
states are equal at every state (strong induction on the rank; at the final states both are 1) -/
theorem bell_fixed_point_unique_of_ranked' (hrk : ReachRanked g rk R) (x y : Array K)
    (hx : ∀ s < g.owners.size, Bell g x s = x.getD s 0)
    (hy : ∀ s < g.owners.size, Bell g y s = y.getD s 0)
    (hxy : ∀ s < g.owners.size, s ∉ g.finals → Absorbing g s → x.getD s 0 = y.getD s 0) :
    ∀ s < g.owners.size, x.getD s 0 = y.getD s 0 :=
  hrk.op.unique_all x y hx hy (fun s hs hp => by
    by_cases hf : s ∈ g.finals
    · rw [getD_final_of_fixed hx hs hf, getD_final_of_fixed hy hs hf]
    · exact hxy s hs hf (hp.resolve_left hf))

set_option linter.unusedSectionVars false in
/-- 1. in particular two fixed points of `Bell` that are 0 at the non-final absorbing states are
equal at every state -/
theorem bell_fixed_point_unique_of_ranked (hrk : ReachRanked g rk R) (x y : Array K)
    (hx : ∀ s < g.owners.size, Bell g x s = x.getD s 0)
    (hy : ∀ s < g.owners.size, Bell g y s = y.getD s 0)
    (hx0 : ∀ s < g.owners.size, s ∉ g.finals → Absorbing g s → x.getD s 0 = 0)
    (hy0 : ∀ s < g.owners.size, s ∉ g.finals → Absorbing g s → y.getD s 0 = 0) :
    ∀ s < g.owners.size, x.getD s 0 = y.getD s 0 :=
  bell_fixed_point_unique_of_ranked' hrk x y hx hy fun s hs hf ha =>
    (hx0 s hs hf ha).trans (hy0 s hs hf ha).symm

/-- 1''. any two exact solutions coincide -/
theorem exactReach_unique (hrk : ReachRanked g rk R) (w w' : Array K) (hw : ExactReach g w)
    (hw' : ExactReach g w') : ∀ s < g.owners.size, w.getD s 0 = w'.getD s 0 :=
  bell_fixed_point_unique_of_ranked hrk w w' hw.1 hw'.1 hw.2 hw'.2

/-- 1'''. existence and uniqueness: a well-formed reach-ranked game has an exact solution (one
entry per state), and every exact solution agrees with it at every state -/
theorem exactReach_exists_unique (hwf : WF g) (hrk : ReachRanked g rk R) :
    ∃ w : Array K, w.size = g.owners.size ∧ ExactReach g w ∧
      ∀ w', ExactReach g w' → ∀ s < g.owners.size, w'.getD s 0 = w.getD s 0 := by
  obtain ⟨w, hsz, hw⟩ := exactReach_exists hwf hrk
  exact ⟨w, hsz, hw, fun w' hw' => exactReach_unique hrk w' w hw' hw⟩

/-- the value of a well-formed game is 0 at every non-final absorbing state (no rank needed) -/
theorem value_zero_of_absorbing (hwf : WF g) (v : Array K) (hv : IsValue g v) :
    ∀ s < g.owners.size, s ∉ g.finals → Absorbing g s → v.getD s 0 = 0 :=
  fun _ hs hnf ha => hv.zero_of_absorbing hwf hs hnf ha

/-- the value of a well-formed game is an exact solution (no rank needed) -/
theorem value_exactReach (hwf : WF g) (v : Array K) (hv : IsValue g v) : ExactReach g v :=
  hv.exactReach hwf

/-- **on a well-formed reach-ranked game "the value" and "the exact solution" are the same thing**:
`v` is the least pre-fixed point of `Bell` iff it has one entry per state, is a fixed point of
`Bell` and is 0 at the non-final absorbing states -/
theorem isValue_iff_exactReach (hwf : WF g) (hrk : ReachRanked g rk R) (v : Array K) :
    IsValue g v ↔ v.size = g.owners.size ∧ ExactReach g v :=
  ⟨fun hv => ⟨hv.prefixed.size, hv.exactReach hwf⟩, fun h => h.2.isValue hwf hrk h.1⟩

/-- on a well-formed reach-ranked game the value EXISTS over every linearly ordered field (over the
reals it always exists: `value_exists`) and is unique -/
theorem value_exists_of_ranked (hwf : WF g) (hrk : ReachRanked g rk R) :
    ∃! v : Array K, IsValue g v := by
  obtain ⟨w, hsz, hw⟩ := exactReach_exists hwf hrk
  have hv := hw.isValue hwf hrk hsz
  exact ⟨w, hv, fun v' hv' => value_unique g v' w hv' hv⟩

/-- an `ε`-approximate fixed point of `Bell` that is 1 at the final and 0 at the non-final absorbing
states is within `(rank + 1)·ε` of the value -/
theorem bell_approx_fixed_point_of_ranked (hwf : WF g) (hrk : ReachRanked g rk R) (x v : Array K)
    (ε : K) (hε : 0 ≤ ε) (hx : ∀ s < g.owners.size, |Bell g x s - x.getD s 0| ≤ ε)
    (hx1 : ∀ s < g.owners.size, s ∈ g.finals → x.getD s 0 = 1)
    (hx0 : ∀ s < g.owners.size, s ∉ g.finals → Absorbing g s → x.getD s 0 = 0)
    (hv : IsValue g v) :
    ∀ s < g.owners.size, |x.getD s 0 - v.getD s 0| ≤ ((rk s : K) + 1) * ε := by
  have hw := hv.exactReach hwf
  refine hrk.op.error_bound (fun s hs _ => Bell_nonexp hwf s hs) x v ε hε
    hx hw.1
    (fun s hs hp => ?_)
  by_cases hf : s ∈ g.finals
  · rw [hx1 s hs hf, getD_final_of_fixed hw.1 hs hf]
  · rw [hx0 s hs hf (hp.resolve_left hf), hw.2 s hs hf (hp.resolve_left hf)]

end Unique

section Solve
variable {rnd : K → Int} {thr : K} {fuel : Nat} {prune : Bool} {g : Game K} {r : ReachOut K}
  {rk : Nat → Nat} {R : Nat}

/-- 2a. **settled after `k` sweeps**: on a well-formed reach-ranked game, every iterate of the run
from the `k`-th on carries the value at every state that is final, absorbing, outside the sweep
order, or of rank `< k` — after `k` sweeps those states are exact and no later sweep changes them
(any threshold, rounding function, fuel, pruning flag) -/
theorem reach_settled_on_low_rank (hwf : WF g) (H : solveReach rnd thr fuel prune g = .ok r)
    (hrk : ReachRanked g rk R) (v : Array K) (hv : IsValue g v) (k k' : Nat) (hk : k ≤ k') :
    ∀ s < g.owners.size, (s ∈ g.finals ∨ Absorbing g s ∨ s ∉ r.order ∨ rk s < k) →
      ((sweepVec g.owners g.tl r.order)^[k'] (initVec g)).getD s 0 = v.getD s 0 := by
  have hR := run_of_ok H
  rw [hR.order]
  intro s hs h
  exact iterates_settled hwf hR.rows hrk hv k k' hk s hs (or_assoc.mpr h)

/-- 2a'. in particular a settled state satisfies its Bellman equation exactly in every later
iterate, and one more sweep does not change it -/
theorem reach_settled_stable (hwf : WF g) (H : solveReach rnd thr fuel prune g = .ok r)
    (hrk : ReachRanked g rk R) (k k' : Nat) (hk : k ≤ k') :
    ∀ s < g.owners.size, (s ∈ g.finals ∨ Absorbing g s ∨ s ∉ r.order ∨ rk s < k) →
      ((sweepVec g.owners g.tl r.order)^[k' + 1] (initVec g)).getD s 0 =
        ((sweepVec g.owners g.tl r.order)^[k'] (initVec g)).getD s 0 := by
  intro s hs h
  obtain ⟨v, hv, _⟩ := value_exists_of_ranked hwf hrk
  rw [reach_settled_on_low_rank hwf H hrk v hv k (k' + 1) (by omega) s hs h,
    reach_settled_on_low_rank hwf H hrk v hv k k' hk s hs h]

/-- 2b. **exactness on low ranks**: the reported probability of a state of rank `ρ` is the value
as soon as `ρ + 1 ≤ r.iters`; that of a final or absorbing state and of a state outside the sweep
order (no path to a final state) always is -/
theorem reach_exact_on_low_rank (hwf : WF g) (H : solveReach rnd thr fuel prune g = .ok r)
    (hrk : ReachRanked g rk R) (v : Array K) (hv : IsValue g v) :
    ∀ s < g.owners.size, (s ∈ g.finals ∨ Absorbing g s ∨ s ∉ r.order ∨ rk s + 1 ≤ r.iters) →
      r.probs.getD s 0 = v.getD s 0 := by
  intro s hs h
  have hR := run_of_ok H
  rw [hR.probs, iter, ← hR.order]
  exact reach_settled_on_low_rank hwf H hrk v hv r.iters r.iters le_rfl s hs
    (h.imp_right (Or.imp_right (Or.imp_right Nat.lt_of_succ_le)))

/-- with `thr = 0` the last sweep reported change 0: the hypothesis of `reach_exact_of_zero_diff'` -/
theorem reach_thr_zero_sweep (hthr : thr = 0) (H : solveReach rnd thr fuel prune g = .ok r) :
    ∃ x : Array K, sweepReach g.owners g.tl r.order x = (r.probs, 0) := by
  obtain ⟨ho, hp, hstop, -⟩ := run_of_ok H
  rcases hstop with ⟨_, h⟩ | ⟨k, hk, h⟩
  · exact absurd (hthr ▸ zero_lt_one) h
  · have : dres g k = 0 := le_antisymm (hthr ▸ not_lt.mp h) (dres_nonneg g k)
    exact ⟨iter g k, by rw [ho, hp, hk, sweepReach_iter, this]⟩

/-- 2. **exactness**: on a well-formed reach-ranked game, if the loop performed at least `R + 1`
sweeps (`R` the maximal rank) OR the reported vector is the result of a sweep that reported change
0, the reported vector IS the value of the game (which exists and is unique) -/
theorem reach_exact_of_ranked (hwf : WF g) (H : solveReach rnd thr fuel prune g = .ok r)
    (hrk : ReachRanked g rk R)
    (hconv : R + 1 ≤ r.iters ∨ ∃ x : Array K, sweepReach g.owners g.tl r.order x = (r.probs, 0)) :
    IsValue g r.probs ∧ ∀ v, IsValue g v → r.probs = v := by
  obtain ⟨w, hw, _⟩ := value_exists_of_ranked hwf hrk
  have heq : ∀ s < g.owners.size, r.probs.getD s 0 = w.getD s 0 := by
    rcases hconv with hR | ⟨x, hsw⟩
    · exact fun s hs => reach_exact_on_low_rank hwf H hrk w hw s hs
        (Or.inr (Or.inr (Or.inr (by have := hrk.bound s hs; omega))))
    · exact (reach_exact_of_zero_diff' hwf H x hsw).2 w hw
  rw [array_ext_getD 0 ((reach_size H).trans hw.prefixed.size.symm) fun i hi => heq i (reach_size H ▸ hi)]
  exact ⟨hw, fun v hv => value_unique g w v hw hv⟩

/-- 2 (i). the iteration-count form -/
theorem reach_exact_of_ranked_iters (hwf : WF g) (H : solveReach rnd thr fuel prune g = .ok r)
    (hrk : ReachRanked g rk R) (hR : R + 1 ≤ r.iters) :
    IsValue g r.probs ∧ ∀ v, IsValue g v → r.probs = v :=
  reach_exact_of_ranked hwf H hrk (Or.inl hR)

/-- 2 (ii). with threshold 0 every `.ok` run on a well-formed reach-ranked game reports the value -/
theorem reach_exact_of_ranked_thr_zero (hwf : WF g) (hthr : thr = 0)
    (H : solveReach rnd thr fuel prune g = .ok r) (hrk : ReachRanked g rk R) :
    IsValue g r.probs ∧ ∀ v, IsValue g v → r.probs = v :=
  reach_exact_of_ranked hwf H hrk (Or.inr (reach_thr_zero_sweep hthr H))

/-- 3. **the tolerance clause, made true**: on a well-formed reach-ranked game the reported
probability of every state `s` is within `(rk s + 1)·thr` of the value, however early the loop
stopped.  No hypothesis on `thr`: `0 ≤ thr` follows from `.ok` (`thr_nonneg_of_ok`), and when the
loop never ran (`1 ≤ thr`) the residual bound `reach_residual_le_thr` holds trivially. -/
theorem reach_error_of_ranked (hwf : WF g) (H : solveReach rnd thr fuel prune g = .ok r)
    (hrk : ReachRanked g rk R) (v : Array K) (hv : IsValue g v) :
    ∀ s < g.owners.size, |r.probs.getD s 0 - v.getD s 0| ≤ ((rk s : K) + 1) * thr :=
  hrk.op.error_bound (fun s hs _ => Bell_nonexp hwf s hs) r.probs v thr (thr_nonneg_of_ok H)
    (reach_residual_le_thr_all hwf H) (hv.exactReach hwf).1 fun s hs hp =>
      reach_exact_on_low_rank hwf H hrk v hv s hs (or_assoc.mp (Or.inl hp))

/-- 3'. one-sided and uniform form: the report is below the value by at most `(R + 1)·thr` -/
theorem reach_error_of_ranked_uniform (hwf : WF g) (H : solveReach rnd thr fuel prune g = .ok r)
    (hrk : ReachRanked g rk R) (v : Array K) (hv : IsValue g v) :
    ∀ s < g.owners.size, r.probs.getD s 0 ≤ v.getD s 0 ∧
      v.getD s 0 - r.probs.getD s 0 ≤ ((R : K) + 1) * thr := by
  intro s hs
  refine ⟨reach_le_value hwf H v hv s hs, ?_⟩
  calc v.getD s 0 - r.probs.getD s 0
      ≤ |r.probs.getD s 0 - v.getD s 0| := abs_sub_comm (v.getD s 0) _ ▸ le_abs_self _
    _ ≤ ((rk s : K) + 1) * thr := reach_error_of_ranked hwf H hrk v hv s hs
    _ ≤ ((R : K) + 1) * thr := mul_le_mul_of_nonneg_right
        (add_le_add_left (Nat.cast_le.mpr (hrk.bound s hs)) 1) (thr_nonneg_of_ok H)

end Solve

section NonVacuity
open CR.Examples CR.ReachRank.Examples

/-- the 7-state game `g7` (Player 1 owns 0 and 3; `0 → {1, 2}`, `1 → ¾·3 + ¼·4`, `2 → ½·5 + ½·6`,
`3 → {4, 5}`; 4, 5, 6 loop; 5 final) is well-formed and reach-ranked with ranks `2, 1, 0, 0, …` -/
example : WF g7 ∧ ReachRanked g7 rk7 2 := ⟨g7_wf, g7_ranked⟩

/-- its absorbing states: the two sinks and the final state -/
example : Absorbing g7 4 ∧ Absorbing g7 5 ∧ Absorbing g7 6 := by decide +kernel

/-- `[¾, ¾, ½, 1, 0, 1, 0]` is the exact solution, hence (by `isValue_iff_exactReach`) the value -/
example : ExactReach g7 v7 ∧ IsValue g7 v7 :=
  ⟨v7_exact, (isValue_iff_exactReach g7_wf g7_ranked v7).mpr ⟨rfl, v7_exact⟩⟩

/-- `reach_exact_of_ranked` instantiated through its FIRST alternative on the run of `g7` with
threshold 10⁻⁶: four sweeps `≥ R + 1 = 3`; the reported vector is the value -/
example : ∃ r, solveReach (roundRat 6) thr 1000 true g7 = .ok r ∧
    r.probs = #[3/4, 3/4, 1/2, 1, 0, 1, 0] ∧ r.iters = 4 ∧ IsValue g7 r.probs :=
  ⟨g7reach, g7_reach_true, rfl, rfl,
    (reach_exact_of_ranked g7_wf g7_reach_true g7_ranked (Or.inl (by decide))).1⟩

/-- `reach_error_of_ranked` and `reach_exact_on_low_rank` instantiated on the run of `g7` with
threshold 3/4, which stops after TWO sweeps: every state is within `(rk + 1)·¾` of the value, the
states of rank `< 2` are exact, and state 0 — rank 2, swept before its successors — is NOT: it
reports 1/2, its value is 3/4 (so the offset in `rk s + 1 ≤ r.iters` cannot be dropped) -/
example : ∃ r, solveReach (roundRat 6) (3/4 : Rat) 1000 true g7 = .ok r ∧ r.iters = 2 ∧
    (∀ s < g7.owners.size, |r.probs.getD s 0 - v7.getD s 0| ≤ ((rk7 s : Rat) + 1) * (3/4)) ∧
    (∀ s < g7.owners.size, rk7 s + 1 ≤ 2 → r.probs.getD s 0 = v7.getD s 0) ∧
    r.probs.getD 0 0 = 1/2 ∧ v7.getD 0 0 = 3/4 ∧ rk7 0 = 2 := by
  obtain ⟨r, H, h⟩ := g7_reach_run_early
  simp only [Prod.mk.injEq] at h
  obtain ⟨h1, h2, _⟩ := h
  have hv : IsValue g7 v7 := (isValue_iff_exactReach g7_wf g7_ranked v7).mpr ⟨rfl, v7_exact⟩
  refine ⟨r, H, h2, reach_error_of_ranked g7_wf H g7_ranked v7 hv, fun s hs hk => ?_, ?_, ?_, ?_⟩
  · exact reach_exact_on_low_rank g7_wf H g7_ranked v7 hv s hs
      (Or.inr (Or.inr (Or.inr (by rw [h2]; exact hk))))
  · rw [h1]; decide +kernel
  · decide +kernel
  · decide

/-- existence and uniqueness of the value, instantiated -/
example : ∃! v : Array Rat, IsValue g7 v := value_exists_of_ranked g7_wf g7_ranked

end NonVacuity

end CR.C01
