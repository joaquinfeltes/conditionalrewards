/-
C01, combined with C07: the set of states value iteration updates is exactly the set of
non-final states with a path to a final state, hence "states with no path to a final state
report exactly 0", and the closedness hypothesis of `reach_exact_of_zero_diff` always holds.
-/
import CR.Props.C01
import CR.Props.C07

namespace CR.C01
open CR CR.VI

section Graph
variable {K : Type} {g : Game K}

/-- the transition structure the backward search sees -/
def targets (g : Game K) : List (List Nat) := g.tl.toList.map (fun row => row.map (·.tgt))

theorem gameOrder_eq (g : Game K) : gameOrder g = reverseDfs (targets g) g.finals := rfl

theorem getD_targets (g : Game K) (u : Nat) :
    (targets g).getD u [] = (g.tl.getD u []).map (·.tgt) := by
  unfold targets
  by_cases hu : u < g.tl.size <;> simp [Array.getD, hu, List.getD_eq_getElem?_getD]

theorem edge_iff (g : Game K) (u v : Nat) :
    C07.Edge (targets g) u v ↔ ∃ t ∈ g.tl.getD u [], t.tgt = v := by
  unfold C07.Edge
  rw [getD_targets, List.mem_map]

/-! The graph facts need one row per state and all targets in range; `check_game` /
`init_states` guarantee that (`Run.size`, `Run.tgts`), and so does `WF`. -/

section
variable (hsz : g.tl.size = g.owners.size)
  (htg : ∀ s < g.owners.size, ∀ t ∈ g.tl.getD s [], t.tgt < g.owners.size)
include hsz htg

theorem targets_inRange : ∀ row ∈ targets g, ∀ v ∈ row, v < (targets g).length := by
  have hlen : (targets g).length = g.owners.size := by simp [targets, hsz]
  intro row hrow v hv
  obtain ⟨u, hu, rfl⟩ := List.mem_iff_getElem.mp hrow
  rw [List.getElem_eq_getD [], getD_targets] at hv
  obtain ⟨t, ht, rfl⟩ := List.mem_map.mp hv
  exact hlen ▸ htg u (hlen ▸ hu) t ht

/-- the states value iteration updates are exactly the non-final states that can reach a
final state (C07.rdfs_mem transported to the solver) -/
theorem gameOrder_mem_iff (s : Nat) :
    s ∈ gameOrder g ↔ (s ∉ g.finals ∧ ∃ f ∈ g.finals, C07.Reach (targets g) s f) :=
  gameOrder_eq g ▸ C07.rdfs_mem (targets g) g.finals (targets_inRange hsz htg) s

theorem gameOrder_closed :
    ∀ s < g.owners.size, s ∉ gameOrder g → s ∉ g.finals →
      ∀ t ∈ g.tl.getD s [], t.tgt ∉ gameOrder g ∧ t.tgt ∉ g.finals := by
  intro s _ hso hsf t ht
  have hedge : C07.Edge (targets g) s t.tgt := (edge_iff g s _).mpr ⟨t, ht, rfl⟩
  have hno : ¬ ∃ f ∈ g.finals, C07.Reach (targets g) s f := fun hex =>
    hso ((gameOrder_mem_iff hsz htg s).mpr ⟨hsf, hex⟩)
  refine ⟨fun hto => ?_, fun htf => ?_⟩
  · obtain ⟨_, f, hf, hrf⟩ := (gameOrder_mem_iff hsz htg _).mp hto
    exact hno ⟨f, hf, Relation.ReflTransGen.head hedge hrf⟩
  · exact hno ⟨t.tgt, htf, Relation.ReflTransGen.single hedge⟩

end

end Graph

variable {K : Type} [Field K] [LinearOrder K] [IsStrictOrderedRing K]
variable {rnd : K → Int} {thr : K} {fuel : Nat} {prune : Bool} {g : Game K} {r : ReachOut K}

/-- the indicator of "final, or on the sweep order" -/
def live (g : Game K) : Array K :=
  (Array.range g.owners.size).map fun s => if s ∈ g.finals ∨ s ∈ gameOrder g then 1 else 0

omit [LinearOrder K] [IsStrictOrderedRing K] in
theorem getD_live (g : Game K) (j : Nat) : (live g).getD j 0 =
    if j < g.owners.size ∧ (j ∈ g.finals ∨ j ∈ gameOrder g) then 1 else 0 := by
  unfold live
  rw [getD_map_range]
  by_cases hj : j < g.owners.size
  · simp only [hj, if_true, true_and]
  · rw [if_neg hj, if_neg fun h => hj h.1]

/-- it is a pre-fixed point: off the order it satisfies its Bellman equation (`bell_off_order`),
on the order a step value of entries `≤ 1` is `≤ 1` -/
theorem live_prefixed (hwf : WF g) (hne : ∀ s < g.owners.size, g.tl.getD s [] ≠ []) :
    PreFixed g (live g) := by
  have hrange : ∀ j, 0 ≤ (live g).getD j 0 ∧ (live g).getD j 0 ≤ 1 := fun j => by
    rw [getD_live]; split_ifs
    · exact ⟨zero_le_one, le_rfl⟩
    · exact ⟨le_rfl, zero_le_one⟩
  have hoff : ∀ j, j ∉ gameOrder g → (live g).getD j 0 = (initVec g).getD j 0 := fun j hj => by
    rw [getD_live, getD_initVec]
    simp only [hj, or_false, List.contains_iff_mem]
  refine ⟨by simp [live], fun s _ => (hrange s).1, fun s hs => ?_⟩
  by_cases hso : s ∈ gameOrder g
  · rw [getD_live, if_pos ⟨hs, Or.inr hso⟩, Bell_nonfinal _ (gameOrder_not_final hso)]
    exact stepReach_le_one (hwf.rowNonneg s hs) (hwf.rowSumOne s hs) _ fun _ _ => (hrange _).2
  · exact le_of_eq (bell_off_order hwf.rowNonneg hne (gameOrder_closed hwf.size hwf.tgts) hoff hs hso)

theorem value_zero_off_order (hwf : WF g) (hne : ∀ s < g.owners.size, g.tl.getD s [] ≠ [])
    {v : Array K} (hv : IsValue g v) {s : Nat} (hs : s < g.owners.size) (hf : s ∉ g.finals)
    (hso : s ∉ gameOrder g) : v.getD s 0 = 0 := by
  refine le_antisymm ?_ (hv.prefixed.nonneg s hs)
  have := hv.least (live_prefixed hwf hne) s hs
  rwa [getD_live, if_neg fun h => h.2.elim hf hso] at this

/-- **states with no path to a final state report exactly 0** -/
theorem reach_zero_of_no_path (H : solveReach rnd thr fuel prune g = .ok r) (s : Nat)
    (hnf : s ∉ g.finals) (hno : ¬ ∃ f ∈ g.finals, C07.Reach (targets g) s f) :
    r.probs.getD s 0 = 0 := by
  have hR := run_of_ok H
  have hs : s ∉ gameOrder g := fun h => hno ((gameOrder_mem_iff hR.size hR.tgts s).mp h).2
  rw [hR.probs, iter_untouched _ hs, getD_initVec_nonfinal hnf]

/-- …and every least pre-fixed point (the value) is 0 there as well, so the report EQUALS the
value on those states -/
theorem value_zero_of_no_path (hwf : WF g) (H : solveReach rnd thr fuel prune g = .ok r)
    (v : Array K) (hv : IsValue g v) (s : Nat) (hs : s < g.owners.size)
    (hnf : s ∉ g.finals) (hno : ¬ ∃ f ∈ g.finals, C07.Reach (targets g) s f) :
    r.probs.getD s 0 = v.getD s 0 ∧ v.getD s 0 = 0 := by
  have hso : s ∉ gameOrder g := fun h => hno ((gameOrder_mem_iff hwf.size hwf.tgts s).mp h).2
  have hv0 := value_zero_off_order hwf (run_of_ok H).rows hv hs hnf hso
  exact ⟨by rw [hv0, reach_zero_of_no_path H s hnf hno], hv0⟩

/-- the residual bound `reach_residual_le_thr` holds at EVERY state: off the sweep order the report
satisfies its Bellman equation exactly (`bell_off_order`) -/
theorem reach_residual_le_thr_all (hwf : WF g) (H : solveReach rnd thr fuel prune g = .ok r) :
    ∀ s < g.owners.size, |Bell g r.probs s - r.probs.getD s 0| ≤ thr := by
  intro s hs
  have hR := run_of_ok H
  by_cases hso : s ∈ r.order
  · exact reach_residual_le_thr hwf H s hso hs
  · rw [bell_off_order hwf.rowNonneg hR.rows (gameOrder_closed hwf.size hwf.tgts)
      (fun j hj => reach_untouched_init H j (hR.order ▸ hj)) hs (hR.order ▸ hso)]
    exact abs_sub_self_le _ (thr_nonneg_of_ok H)

/-- when the last sweep changed nothing the report IS the max–min value (no side condition) -/
theorem reach_exact_of_zero_diff' (hwf : WF g) (H : solveReach rnd thr fuel prune g = .ok r)
    (x : Array K) (hsw : sweepReach g.owners g.tl r.order x = (r.probs, 0)) :
    PreFixed g r.probs ∧ ∀ v, IsValue g v → ∀ s < g.owners.size, r.probs.getD s 0 = v.getD s 0 :=
  (reach_exact_of_zero_diff hwf H x hsw
    ((run_of_ok H).order ▸ gameOrder_closed hwf.size hwf.tgts)).2

theorem isValue_of_zero_diff (hwf : WF g) (H : solveReach rnd thr fuel prune g = .ok r)
    (x : Array K) (hsw : sweepReach g.owners g.tl r.order x = (r.probs, 0)) :
    IsValue g r.probs :=
  ⟨(reach_exact_of_zero_diff' hwf H x hsw).1, reach_le_prefixed hwf H⟩

end CR.C01
