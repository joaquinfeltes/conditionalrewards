/-
C02 composed with C03: Bellman consistency of the reported expected rewards, stated against the
presentation-independent conditioned rows `condRow` (the specification vocabulary of C03) instead
of the solver's internal node lists `out.nodes`.

* `specNodes g strat reach`: the game whose row at state `s` is `condRow g strat reach s`
  (Player 2: verbatim; Player 1: strategy-permitted live transitions; probabilistic: live
  transitions renormalised) — no clearing of unreachable states, no reference to `prune_states`;
* `stratNodes g strat`: the rows of the unpruned run — Player 1 restricted to its reachability
  strategy, every other row verbatim;
  (both defined in `CR/Lemmas/CondSpec.lean`, with `specNodes_getD` / `stratNodes_getD`);
* `Rew.Brew_congr_row`: the reward Bellman operator at `s` depends on the transition lists only
  through the row of `s`.

`rew_consistency_wrt_spec` (pruning on): at every state reachable from state 0 in the
conditioned graph the reported reward vector satisfies the reward equations of `specNodes` up to
the threshold.  `rew_consistency_wrt_spec_noprune` (pruning off): the same at ALL states, for
`stratNodes`.
-/
import CR.Props.C02
import CR.Props.C03
import CR.Lemmas.CondSpec

namespace CR.C02

open CR CR.VI CR.Rew

variable {K : Type} [Field K] [LinearOrder K] [IsStrictOrderedRing K]

section
variable {rnd : K → Int} {thr : K} {fuel : Nat} {g : Game K} {out : SolveOut K}

omit [IsStrictOrderedRing K] in
/-- C03's `reachable_states_exact` on the run: at a state reachable in the conditioned graph the
stored row is the row of `specNodes` -/
theorem nodes_eq_spec_of_reachable (H : solve rnd thr fuel true g = .ok out) {s : Nat}
    (hs : s < g.owners.size)
    (hr : Relation.ReflTransGen (CondEdge g out.reachStrat out.probs) 0 s) :
    out.nodes.getD s [] = (specNodes g out.reachStrat out.probs).getD s [] := by
  rw [specNodes_getD g out.reachStrat out.probs hs]
  exact CR.C03.reachable_states_exact (rew_result H).2.1 hr

/-- **Bellman consistency w.r.t. the specification of conditioning.**  If every probabilistic
row of the input game is a positive distribution, the loop ran (`thr < 1`) and
`solve … true g = .ok out`, then at every state `s` reachable from state 0 in the conditioned
graph the reported rewards satisfy the reward equations of the game whose rows are
`condRow g out.reachStrat out.probs` up to the threshold. -/
theorem rew_consistency_wrt_spec
    (hrows : ∀ s < g.owners.size, g.owners.getD s .prob = .prob →
      (∀ t ∈ g.tl.getD s [], 0 < t.p) ∧ ((g.tl.getD s []).map (·.p)).sum = 1)
    (hthr : thr < 1) (H : solve rnd thr fuel true g = .ok out) :
    ∀ s < g.owners.size, Relation.ReflTransGen (CondEdge g out.reachStrat out.probs) 0 s →
      |Brew g.owners g.rewards (specNodes g out.reachStrat out.probs) out.rewards s
        - out.rewards.getD s 0| ≤ thr := by
  intro s hs hr
  rw [← Brew_congr_row (nodes_eq_spec_of_reachable H hs hr)]
  exact rew_bellman_consistency_of_game hrows hthr H s hs

/-- the same with the equations spelled out through `condRow` (no array of rows): the value
`Brew` takes at `s` is determined by `condRow … s` alone -/
theorem rew_consistency_wrt_condRow
    (hrows : ∀ s < g.owners.size, g.owners.getD s .prob = .prob →
      (∀ t ∈ g.tl.getD s [], 0 < t.p) ∧ ((g.tl.getD s []).map (·.p)).sum = 1)
    (hthr : thr < 1) (H : solve rnd thr fuel true g = .ok out) :
    ∀ s < g.owners.size, Relation.ReflTransGen (CondEdge g out.reachStrat out.probs) 0 s →
      ∀ nodes : Array (List (Tr K)),
        nodes.getD s [] = condRow g out.reachStrat out.probs s →
        |Brew g.owners g.rewards nodes out.rewards s - out.rewards.getD s 0| ≤ thr := by
  intro s hs hr nodes hrow
  have h : nodes.getD s [] = (specNodes g out.reachStrat out.probs).getD s [] := by
    rw [hrow, specNodes_getD g out.reachStrat out.probs hs]
  rw [Brew_congr_row h]
  exact rew_consistency_wrt_spec hrows hthr H s hs hr

/-- states NOT reachable in the conditioned graph: the stored row is the specification's row or
empty, and in the second case (loop ran) the state reports reward 0 -/
theorem rew_unreachable_cases (hthr : thr < 1) (H : solve rnd thr fuel true g = .ok out) :
    ∀ s < g.owners.size,
      out.nodes.getD s [] = (specNodes g out.reachStrat out.probs).getD s [] ∨
      (g.owners.getD s .prob ≠ .p1 ∧
        ¬ Relation.ReflTransGen (CondEdge g out.reachStrat out.probs) 0 s ∧
        out.rewards.getD s 0 = 0) := by
  intro s hs
  rcases (CR.C03.cond_exact (solve_checked H).2 (rew_result H).2.1).2 s hs with h | ⟨h1, h2, h3⟩
  · left; rw [specNodes_getD g out.reachStrat out.probs hs]; exact h
  · right; exact ⟨h2, h3, (rew_emptied_zero hthr H s h1).1⟩

end

section NoPrune
variable {rnd : K → Int} {thr : K} {fuel : Nat} {g : Game K} {out : SolveOut K}

omit [IsStrictOrderedRing K] in
/-- with pruning off every stored row is the row of `stratNodes` (`noprune_nodes`) -/
theorem nodes_eq_strat (H : solve rnd thr fuel false g = .ok out) {s : Nat}
    (hs : s < g.owners.size) :
    out.nodes.getD s [] = (stratNodes g out.reachStrat).getD s [] := by
  rw [stratNodes_getD g out.reachStrat hs, (noprune_nodes H).2 s]
  rfl

/-- **Unpruned analogue.**  With pruning off, at ALL states the reported rewards satisfy, up to
the threshold, the reward equations of the game in which Player 1 is restricted to its
reachability strategy and nothing else is changed. -/
theorem rew_consistency_wrt_spec_noprune
    (hrows : ∀ s < g.owners.size, g.owners.getD s .prob = .prob →
      (∀ t ∈ g.tl.getD s [], 0 ≤ t.p) ∧ ((g.tl.getD s []).map (·.p)).sum = 1)
    (hthr : thr < 1) (H : solve rnd thr fuel false g = .ok out) :
    ∀ s < g.owners.size,
      |Brew g.owners g.rewards (stratNodes g out.reachStrat) out.rewards s
        - out.rewards.getD s 0| ≤ thr := by
  intro s hs
  rw [← Brew_congr_row (nodes_eq_strat H hs), (noprune_nodes H).1]
  exact rew_bellman_consistency_noprune hrows hthr H s hs

end NoPrune

/-! ### non-vacuity: the 7-state run of `CR/Props/C02.lean` -/

section NonVacuity
open CR.Examples CR.Rew.Examples

/-- the specification's conditioned rows on the concrete run: the unreachable state 2 is NOT
emptied by `condRow` (it is by `prune_states`, see `g7nodes`); states 4 and 6 have no live
successor; the reachable states 0, 1, 3, 5 agree with `g7nodes` -/
example : specNodes g7 #[some ["alfa"], none, none, some ["gamma"], none, none, none] g7probs =
    #[[tr "alfa" 0 1], [tr "" 1 3], [tr "" 1 5], [tr "gamma" 0 5], [], [tr "" 1 5], []] := by
  decide +kernel

/-- state 3 is reachable from 0 in the conditioned graph of the concrete run: 0 → 1 → 3 -/
example : Relation.ReflTransGen
    (CondEdge g7 #[some ["alfa"], none, none, some ["gamma"], none, none, none] g7probs) 0 3 :=
  .tail (.tail .refl ⟨tr "alfa" 0 1, by decide +kernel, rfl⟩) ⟨tr "" 1 3, by decide +kernel, rfl⟩

/-- all hypotheses of `rew_consistency_wrt_spec` hold together on a concrete run -/
example : ∃ out, solve (roundRat 6) thr 1000 true g7 = .ok out ∧
    ∀ s < g7.owners.size, Relation.ReflTransGen (CondEdge g7 out.reachStrat out.probs) 0 s →
      |Brew g7.owners g7.rewards (specNodes g7 out.reachStrat out.probs) out.rewards s
        - out.rewards.getD s 0| ≤ thr :=
  ⟨_, g7_solve_true, rew_consistency_wrt_spec (by decide +kernel) (by decide +kernel) g7_solve_true⟩

end NonVacuity

end CR.C02
