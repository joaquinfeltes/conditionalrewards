/-
Property C03.  "After the solver conditions a game on reachability, no Player 1 or probabilistic
state keeps a transition into a state whose reachability probability is 0, however many such
successors it had and wherever they sat in its transition list.  Each surviving probabilistic
transition keeps its position and carries its original probability divided by the total surviving
probability (so they sum to 1), and for states still reachable from the initial state nothing else
changes: Player 2 keeps all its transitions and no transition between positive-probability states
is lost."

The model is `CR.condition` (`prune_reachability`, then `prune_paths`, then the `prune_states`
loop) of `CR/Model/Solver.lean`.  The specification vocabulary (`dead`, `keptMass`, `condRow`,
`CondEdge`, `Shape`) and all helper lemmas are in `CR/Lemmas/Prune.lean`:

* `dead reach t`         : the successor of `t` is reported with probability 0;
* `condRow g strat reach s` : the conditioned transition list of state `s`, before the clearing of
  unreachable states — Player 2: the row verbatim; Player 1: the strategy-permitted, live
  transitions in original order; probabilistic: the row verbatim when nothing is dead, otherwise
  the live transitions in original order with `p / keptMass`, where `keptMass` is the sum of the
  live probabilities exactly as Python's `sum` computes it (from 0, left to right);
* `CondEdge g strat reach u v` : `condRow .. u` has a transition to `v`;
* `Shape g`              : `g.tl.size = g.owners.size` (guaranteed by `check_game`).
-/
import CR.Lemmas.Prune
import Mathlib.Algebra.Order.Field.Rat

namespace CR.C03
open CR

section Generic
variable {α : Type} [Add α] [Sub α] [Div α] [BEq α] [OfNat α 0] [OfNat α 1]

set_option linter.unusedSectionVars false

/-- **A.** After conditioning, no Player-1 or probabilistic state keeps a transition into a state
of reachability probability 0 — however many dead successors it had and wherever they sat. -/
theorem no_dead_successor {g : Game α} (hg : Shape g) {strat : Array Strat} {reach : Array α}
    {nodes : Array (List (Tr α))} (h : condition true g strat reach = .ok nodes) :
    ∀ s, s < g.owners.size → g.owners.getD s .prob ≠ .p2 →
      ∀ t ∈ nodes.getD s [], dead reach t = false := by
  intro s _ ho t ht
  rcases condition_row_cases h s with hrow | ⟨hnil, _, _⟩
  · rw [hrow] at ht; exact condRow_no_dead ho ht
  · rw [hnil] at ht; exact absurd ht List.not_mem_nil

/-- **B.** The conditioned game has the same number of states, and every row is exactly `condRow`,
except that a state that is not Player 1's and is NOT reachable from state 0 in the conditioned
graph may have been emptied. -/
theorem cond_exact {g : Game α} (hg : Shape g) {strat : Array Strat} {reach : Array α}
    {nodes : Array (List (Tr α))} (h : condition true g strat reach = .ok nodes) :
    nodes.size = g.owners.size ∧
    ∀ s, s < g.owners.size →
      nodes.getD s [] = condRow g strat reach s ∨
      (nodes.getD s [] = [] ∧ g.owners.getD s .prob ≠ .p1 ∧
        ¬ Relation.ReflTransGen (CondEdge g strat reach) 0 s) :=
  ⟨(condition_size h).trans hg, fun s _ => condition_row_cases h s⟩

/-- **C.** States reachable from the initial state carry exactly `condRow`. -/
theorem reachable_states_exact {g : Game α} {strat : Array Strat} {reach : Array α}
    {nodes : Array (List (Tr α))} (h : condition true g strat reach = .ok nodes) {s : Nat}
    (hr : Relation.ReflTransGen (CondEdge g strat reach) 0 s) :
    nodes.getD s [] = condRow g strat reach s := by
  rcases condition_row_cases h s with hrow | ⟨_, _, hnr⟩
  · exact hrow
  · exact absurd hr hnr

/-- **C.** A Player-2 state still reachable from the initial state keeps its transition list
verbatim. -/
theorem p2_untouched {g : Game α} (hg : Shape g) {strat : Array Strat} {reach : Array α}
    {nodes : Array (List (Tr α))} (h : condition true g strat reach = .ok nodes) {s : Nat}
    (ho : g.owners.getD s .prob = .p2)
    (hr : Relation.ReflTransGen (CondEdge g strat reach) 0 s) :
    nodes.getD s [] = g.tl.getD s [] := by
  rw [reachable_states_exact h hr, condRow_p2 ho]

/-- **C.** A Player-1 state (reachable or not: `prune_states` never empties it) keeps exactly the
sub-list, in original order, of its strategy-permitted transitions into states of non-zero
reachability probability. -/
theorem p1_survivors {g : Game α} (hg : Shape g) {strat : Array Strat} {reach : Array α}
    {nodes : Array (List (Tr α))} (h : condition true g strat reach = .ok nodes) {s : Nat}
    (ho : g.owners.getD s .prob = .p1) :
    nodes.getD s [] =
        ((g.tl.getD s []).filter (fun t => ((strat.getD s none).getD []).contains t.act)).filter
          (fun t => !dead reach t) ∧
    List.Sublist (nodes.getD s []) (g.tl.getD s []) ∧
    ∀ t, t ∈ nodes.getD s [] ↔
      t ∈ g.tl.getD s [] ∧ ((strat.getD s none).getD []).contains t.act = true ∧
        dead reach t = false := by
  have hrow := (condition_getD_p1 h s ho).trans (if_pos rfl)
  refine ⟨hrow, ?_, ?_⟩
  · rw [hrow]; exact List.Sublist.trans List.filter_sublist List.filter_sublist
  · intro t
    rw [hrow, mem_live, List.mem_filter, and_assoc]

/-- **C.** No transition between positive-probability states is lost: in a state still reachable
from the initial state, every original transition into a state of non-zero reachability probability
(and permitted by the strategy, if the state is Player 1's) survives with its action and target. -/
theorem live_transition_kept {g : Game α} (hg : Shape g) {strat : Array Strat} {reach : Array α}
    {nodes : Array (List (Tr α))} (h : condition true g strat reach = .ok nodes) {s : Nat}
    (hr : Relation.ReflTransGen (CondEdge g strat reach) 0 s)
    {t : Tr α} (ht : t ∈ g.tl.getD s []) (hlive : dead reach t = false)
    (hperm : g.owners.getD s .prob = .p1 →
      ((strat.getD s none).getD []).contains t.act = true) :
    ∃ t' ∈ nodes.getD s [], t'.act = t.act ∧ t'.tgt = t.tgt := by
  rw [reachable_states_exact h hr]
  exact condRow_keeps_live ht hlive hperm

/-- **E (generic part).** Conditioning succeeds as soon as `prune_paths` does not divide by zero:
the `prune_states` loop never exhausts its fuel `n + 2`. -/
theorem condition_total_of_no_zeroDiv {g : Game α} (hg : Shape g) {strat : Array Strat}
    {reach : Array α}
    (hz : prunePaths g.owners reach (pruneReachability g.owners strat g.tl) ≠ .error .zeroDiv) :
    ∃ nodes, condition true g strat reach = .ok nodes := by
  cases hb : prunePaths g.owners reach (pruneReachability g.owners strat g.tl) with
  | ok base => exact condition_total_of_prunePaths hg hb
  | error e =>
    have := prunePaths_error_zeroDiv hb
    subst this
    exact absurd hb hz

end Generic

section OrderedField
variable {K : Type} [Field K] [LinearOrder K] [IsStrictOrderedRing K]

/-- **D, when something was removed.** Over an ordered field, for a probabilistic state that has at
least one dead successor — whatever its probabilities sum to: the conditioned row consists of the
live transitions, in their original order and with their original action and target, each carrying
its original probability divided by the total surviving probability; if that total is not zero the
new probabilities sum to 1; and if the surviving probabilities are positive `prune_paths` does not
raise `ZeroDivisionError` on this row. -/
theorem prob_survivors_of_removed {g : Game K} {strat : Array Strat} {reach : Array K} {s : Nat}
    (ho : g.owners.getD s .prob = .prob)
    (hrem : ((g.tl.getD s []).filter (fun t => !dead reach t)).length ≠ (g.tl.getD s []).length) :
    let live := (g.tl.getD s []).filter (fun t => !dead reach t)
    condRow g strat reach s = live.map (fun t => { t with p := t.p / (live.map (·.p)).sum }) ∧
    ((live.map (·.p)).sum ≠ 0 → ((condRow g strat reach s).map (·.p)).sum = 1) ∧
    ((∀ t ∈ live, 0 < t.p) →
      prunePathsProb reach (g.tl.getD s []) = .ok (condRow g strat reach s)) := by
  intro live
  rw [condRow_prob ho]
  refine ⟨condProb_field_of_removed reach hrem, fun hne0 => ?_, fun hpos => ?_⟩
  · rw [condProb_field_of_removed reach hrem]
    exact sum_map_rescale _ hne0
  · exact prunePathsProb_pos reach fun t ht hd => hpos t (mem_live.mpr ⟨ht, hd⟩)

/-- **D.** Over an ordered field, for a probabilistic state whose row is a positive distribution:
the conditioned row consists of the live transitions, in their original order and with their
original action and target, each carrying its original probability divided by the total surviving
probability; if anything survives the new probabilities sum to 1; and `prune_paths` does not raise
`ZeroDivisionError` on this row. -/
theorem prob_survivors {g : Game K} {strat : Array Strat} {reach : Array K} {s : Nat}
    (ho : g.owners.getD s .prob = .prob)
    (hpos : ∀ t ∈ g.tl.getD s [], 0 < t.p)
    (hsum : ((g.tl.getD s []).map (·.p)).sum = 1) :
    let live := (g.tl.getD s []).filter (fun t => !dead reach t)
    condRow g strat reach s = live.map (fun t => { t with p := t.p / (live.map (·.p)).sum }) ∧
    (live ≠ [] → ((condRow g strat reach s).map (·.p)).sum = 1) ∧
    prunePathsProb reach (g.tl.getD s []) ≠ .error .zeroDiv := by
  intro live
  rw [condRow_prob ho]
  refine ⟨condProb_field reach hsum, fun hne => condProb_sum_one reach hpos hsum hne, ?_⟩
  rw [prunePathsProb_pos reach (fun t ht _ => hpos t ht)]
  exact fun h => nomatch h

/-- **D, on the solver's output.** The same, for the list actually stored in a probabilistic state
that is still reachable from the initial state. -/
theorem prob_survivors_nodes {g : Game K} (hg : Shape g) {strat : Array Strat} {reach : Array K}
    {nodes : Array (List (Tr K))} (h : condition true g strat reach = .ok nodes) {s : Nat}
    (ho : g.owners.getD s .prob = .prob)
    (hpos : ∀ t ∈ g.tl.getD s [], 0 < t.p)
    (hsum : ((g.tl.getD s []).map (·.p)).sum = 1)
    (hr : Relation.ReflTransGen (CondEdge g strat reach) 0 s) :
    let live := (g.tl.getD s []).filter (fun t => !dead reach t)
    nodes.getD s [] = live.map (fun t => { t with p := t.p / (live.map (·.p)).sum }) ∧
    (live ≠ [] → ((nodes.getD s []).map (·.p)).sum = 1) := by
  intro live
  rw [reachable_states_exact h hr]
  obtain ⟨h1, h2, _⟩ := prob_survivors (strat := strat) (reach := reach) ho hpos hsum
  exact ⟨h1, h2⟩

/-- **E, without normalisation.** Over an ordered field, if in every probabilistic row the
transitions into states of non-zero reachability probability carry positive probabilities (the
rows need not sum to 1) then conditioning always succeeds: the divisor of `prune_paths` is the
sum of the surviving probabilities, hence not zero, and `prune_states` terminates within its fuel
`n + 2`. -/
theorem condition_total_of_pos {g : Game K} (hg : Shape g) {reach : Array K}
    (hrows : ∀ s, s < g.owners.size → g.owners.getD s .prob = .prob →
      ∀ t ∈ g.tl.getD s [], dead reach t = false → 0 < t.p)
    (strat : Array Strat) :
    ∃ nodes, condition true g strat reach = .ok nodes := by
  obtain ⟨base, hb⟩ := prunePaths_total_of_pos hg hrows strat
  exact condition_total_of_prunePaths hg hb

/-- **E.** Over an ordered field, if every probabilistic row is a positive distribution then
conditioning always succeeds: no `ZeroDivisionError`, and `prune_states` terminates within its
fuel `n + 2`. -/
theorem condition_total {g : Game K} (hg : Shape g)
    (hrows : ∀ s, s < g.owners.size → g.owners.getD s .prob = .prob →
      (∀ t ∈ g.tl.getD s [], 0 < t.p) ∧ ((g.tl.getD s []).map (·.p)).sum = 1)
    (strat : Array Strat) (reach : Array K) :
    ∃ nodes, condition true g strat reach = .ok nodes :=
  condition_total_of_pos hg (fun s hs ho t ht _ => (hrows s hs ho).1 t ht) strat

end OrderedField

/-! ### non-vacuity: concrete conditioning over `Rat`

States: 0 Player 1, 1 and 2 probabilistic, 3 and 4 dead (reachability 0) sinks, 5 final.
State 1 has two ADJACENT dead successors (3, 4) before its live one; state 2 has two SEPARATED
dead successors (3 first, 4 third) among live ones; state 0 has a dead successor between live
ones. -/

private def tr (a : String) (p : Rat) (t : Nat) : Tr Rat := { act := a, p := p, tgt := t }

private def exGame : Game Rat :=
  { rewards := #[0, 0, 0, 0, 0, 0]
    owners := #[.p1, .prob, .prob, .prob, .p2, .prob]
    tl := #[ [tr "a" 0 1, tr "c" 0 3, tr "b" 0 2, tr "z" 0 5],
             [tr "" (1/4) 3, tr "" (1/4) 4, tr "" (1/2) 5],
             [tr "" (1/5) 3, tr "" (2/5) 5, tr "" (1/5) 4, tr "" (1/5) 1],
             [tr "" 1 3],
             [tr "x" 0 4],
             [tr "" 1 5] ]
    finals := [5] }

private def exStrat : Array Strat := #[some ["a", "b", "c"], none, none, none, some ["x"], none]
private def exReach : Array Rat := #[1, 1, 1, 0, 0, 1]

example : Shape exGame := rfl

example :
    condition true exGame exStrat exReach =
      .ok #[ [tr "a" 0 1, tr "b" 0 2],
             [tr "" 1 5],
             [tr "" (2/3) 5, tr "" (1/3) 1],
             [],
             [tr "x" 0 4],   -- unreachable Player-2 self-loop: its own target, hence not cleared
             [tr "" 1 5] ] := by
  decide +kernel

/-- a probabilistic state ALL of whose successors are dead is emptied, not a division by zero -/
example :
    condition true
      { rewards := #[0, 0, 0], owners := #[.prob, .prob, .prob],
        tl := #[[tr "" (1/2) 1, tr "" (1/2) 2], [tr "" (1/2) 1, tr "" (1/2) 1], [tr "" 1 2]],
        finals := [2] }
      #[none, none, none] #[(1/2 : Rat), 0, 1] =
      .ok #[[tr "" 1 2], [], [tr "" 1 2]] := by
  decide +kernel

/-- the divisor is the SUM OF THE SURVIVING probabilities, not `1 -` the removed ones: on a row
that does not sum to 1 (here 1/4 + 1/4 + 1/4) the survivors are renormalised to 1/2 each (dividing
by `1 - 1/4` would give 1/3 each) -/
example :
    condition true
      { rewards := #[0, 0, 0], owners := #[.prob, .prob, .prob],
        tl := #[[tr "" (1/4) 1, tr "" (1/4) 2, tr "" (1/4) 0], [tr "" 1 1], [tr "" 1 2]],
        finals := [2] }
      #[none, none, none] #[(1 : Rat), 0, 1] =
      .ok #[[tr "" (1/2) 2, tr "" (1/2) 0], [], [tr "" 1 2]] := by
  decide +kernel

/-- surviving probabilities that cancel (sum 0) are the one remaining `ZeroDivisionError` -/
example :
    condition true
      { rewards := #[0, 0, 0], owners := #[.prob, .prob, .prob],
        tl := #[[tr "" 1 1, tr "" (1/2) 2, tr "" (-1/2) 0], [tr "" 1 1], [tr "" 1 2]],
        finals := [2] }
      #[none, none, none] #[(1 : Rat), 0, 1] = .error .zeroDiv := by
  decide +kernel

/-- the hypotheses of `condition_total` are satisfiable -/
example : ∃ nodes, condition true exGame exStrat exReach = .ok nodes :=
  condition_total (g := exGame) rfl (by decide +kernel) exStrat exReach

end CR.C03
