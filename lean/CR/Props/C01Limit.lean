/-
C01, asymptotic correctness of the reachability phase.

The clause "within tolerance of the true value" is false for a FIXED threshold (the loop stops on
a small residual, `tolerance_clause_fails` in C01Neg.lean).  What IS true, for every well-formed game over
the reals: the reported vector converges to the max–min value as the threshold goes to 0.  For
every game and every ε > 0 there is a δ > 0 such that EVERY successful run with a threshold below
δ (any rounding function, any fuel, pruning on or off) reports, for every state, a number in
`(value − ε, value]`.

Proof idea: the Gauss–Seidel iterates increase and are bounded by the value, so they converge
(monotone convergence in ℝ); the sweep is non-expansive in the sup norm, so the limit is a fixed
point of the sweep, hence (backward-search set is closed, finals are pinned) a pre-fixed point of
the Bellman operator, hence ≥ the value (least pre-fixed point); so the limit IS the value.  Take N
with iterate N within ε of the value, δ := the smallest positive residual among the first N sweeps.
A run with thr < δ either stops after ≥ N sweeps (monotone: within ε), or stopped earlier on a
ZERO residual, in which case the report is exactly the value (`reach_exact_of_zero_diff'`, C01Path).

The statement about the bare iterates needs the documented rule "every state has a transition"
(`hne`); a successful run guarantees it (`init_states`), so the statements about runs do not.
`limit_needs_nonempty_rows` at the end shows that the hypothesis cannot be dropped.
-/
import CR.Lemmas.Limit
import CR.Props.C01Value

namespace CR.C01

open CR CR.VI

/-- **the iterates converge to the value** (Kleene): for every ε > 0 some iterate is within ε of
the value at every state, and all later ones too.  The hypothesis `hne` (every state has a
transition) is needed: `WF` does not contain it, and for the game with a single Player-2 state
without transitions and no final state the iterates stay at 0 while the value is 1 (the minimum
over an empty row is its start value 1), see `limit_needs_nonempty_rows` below. -/
theorem iterates_converge_to_value (g : Game ℝ) (hwf : WF g)
    (hne : ∀ s < g.owners.size, g.tl.getD s [] ≠ []) (v : Array ℝ) (hv : IsValue g v)
    (ε : ℝ) (hε : 0 < ε) :
    ∃ N : Nat, ∀ k, N ≤ k → ∀ s < g.owners.size,
      v.getD s 0 - ε < ((sweepVec g.owners g.tl (gameOrder g))^[k] (initVec g)).getD s 0 ∧
      ((sweepVec g.owners g.tl (gameOrder g))^[k] (initVec g)).getD s 0 ≤ v.getD s 0 :=
  Limit.iter_converges hwf hne v hv ε hε

/-- **C01, limit form of the tolerance clause.**  For every well-formed game over the reals and
every ε > 0 there is δ > 0 such that every successful run with threshold < δ reports at every
state a number within ε below the value (never above it). -/
theorem reach_converges_to_value (g : Game ℝ) (hwf : WF g) (v : Array ℝ) (hv : IsValue g v)
    (ε : ℝ) (hε : 0 < ε) :
    ∃ δ : ℝ, 0 < δ ∧ ∀ (rnd : ℝ → Int) (thr : ℝ) (fuel : Nat) (prune : Bool) (r : ReachOut ℝ),
      thr < δ → solveReach rnd thr fuel prune g = .ok r →
      ∀ s < g.owners.size, v.getD s 0 - ε < r.probs.getD s 0 ∧ r.probs.getD s 0 ≤ v.getD s 0 := by
  by_cases hne : ∀ s < g.owners.size, g.tl.getD s [] ≠ []
  · obtain ⟨N, hN⟩ := Limit.iter_converges hwf hne v hv ε hε
    obtain ⟨δ, hδ0, hδ1, hδ⟩ := Limit.exists_pos_le_nonzero (dres g) (dres_nonneg g) N
    refine ⟨δ, hδ0, fun rnd thr fuel prune r hthr H s hs => ?_⟩
    obtain ⟨ho, hp, hstop, -⟩ := run_of_ok H
    rcases hstop with ⟨_, h⟩ | ⟨k, hk, h⟩
    · exact absurd (lt_of_lt_of_le hthr hδ1) h
    · by_cases hkN : k < N
      · -- stopped early: the reported change is below the least positive one, so it is 0
        have hd0 : dres g k = 0 :=
          (hδ k hkN).resolve_right fun h' => absurd (lt_of_lt_of_le hthr h') h
        have hsw : sweepReach g.owners g.tl r.order (iter g k) = (r.probs, 0) := by
          rw [ho, hp, hk, ← hd0]; exact sweepReach_iter g k
        rw [(reach_exact_of_zero_diff' hwf H _ hsw).2 v hv s hs]
        exact ⟨sub_lt_self _ hε, le_rfl⟩
      · rw [hp, hk]
        exact hN (k + 1) (by omega) s hs
  · exact ⟨1, one_pos, fun _ _ _ _ r _ H => absurd (run_of_ok H).rows hne⟩

/-- the same with the value quantified existentially (it exists and is unique over ℝ) -/
theorem reach_converges (g : Game ℝ) (hwf : WF g) (ε : ℝ) (hε : 0 < ε) :
    ∃ v : Array ℝ, IsValue g v ∧ ∃ δ : ℝ, 0 < δ ∧
      ∀ (rnd : ℝ → Int) (thr : ℝ) (fuel : Nat) (prune : Bool) (r : ReachOut ℝ),
      thr < δ → solveReach rnd thr fuel prune g = .ok r →
      ∀ s < g.owners.size, |r.probs.getD s 0 - v.getD s 0| < ε := by
  obtain ⟨v, hv⟩ := value_exists g hwf
  obtain ⟨δ, hδ, h⟩ := reach_converges_to_value g hwf v hv ε hε
  refine ⟨v, hv, δ, hδ, fun rnd thr fuel prune r hthr H s hs => ?_⟩
  obtain ⟨h1, h2⟩ := h rnd thr fuel prune r hthr H s hs
  rw [abs_lt]
  constructor <;> linarith

/-- the hypotheses of `iterates_converge_to_value` are satisfiable (the cyclic three-state example
game over ℝ is well-formed and every state has a transition), so its conclusion holds there -/
example : ∃ v : Array ℝ, IsValue exGameR v ∧ ∃ N : Nat, ∀ k, N ≤ k → ∀ s < exGameR.owners.size,
    v.getD s 0 - 1 / 100 <
      ((sweepVec exGameR.owners exGameR.tl (gameOrder exGameR))^[k] (initVec exGameR)).getD s 0 ∧
    ((sweepVec exGameR.owners exGameR.tl (gameOrder exGameR))^[k] (initVec exGameR)).getD s 0
      ≤ v.getD s 0 := by
  obtain ⟨v, hv⟩ := value_exists exGameR exGameR_wf
  exact ⟨v, hv,
    iterates_converge_to_value exGameR exGameR_wf exGameR_rows_ne v hv (1 / 100) (by norm_num)⟩

/-- one Player-2 state WITHOUT transitions, no final state -/
noncomputable def cexGame : Game ℝ where
  rewards := #[0]
  owners := #[.p2]
  tl := #[[]]
  finals := []

private theorem cex_state {s : Nat} (hs : s < cexGame.owners.size) : s = 0 :=
  Nat.lt_one_iff.mp hs

private theorem cex_wf : WF cexGame := by
  refine ⟨rfl, fun s hs => ?_, fun s hs => ?_⟩
  · cases cex_state hs; simp [cexGame]
  · cases cex_state hs; simp [cexGame]

private theorem cex_value : IsValue cexGame #[1] := by
  refine ⟨⟨rfl, fun s hs => ?_, fun s hs => ?_⟩, fun y hy s hs => ?_⟩
  · cases cex_state hs; simp
  · cases cex_state hs; simp [Bell, stepReach, cexGame]
  · cases cex_state hs
    simpa [Bell, stepReach, cexGame] using hy.bell_le 0 hs

private theorem cex_iter (k : Nat) :
    (sweepVec cexGame.owners cexGame.tl (gameOrder cexGame))^[k] (initVec cexGame) = #[0] := by
  have hord : gameOrder cexGame = [] := by simp [gameOrder, reverseDfs, cexGame]
  rw [hord]
  induction k with
  | zero =>
    apply Array.ext
    · simp [initVec, cexGame]
    · intro i h1 h2; simp [initVec, cexGame]
  | succ k ih => rw [Function.iterate_succ_apply', ih]; rfl

/-- **the hypothesis "every state has a transition" of `iterates_converge_to_value` cannot be
dropped**: a well-formed game (in the sense of `WF`) with value `[1]` whose iterates all equal
`[0]`, so no iterate is within 1/2 of the value -/
theorem limit_needs_nonempty_rows :
    ∃ (g : Game ℝ) (v : Array ℝ), WF g ∧ IsValue g v ∧
      ¬ ∃ N : Nat, ∀ k, N ≤ k → ∀ s < g.owners.size,
        v.getD s 0 - 1 / 2 < ((sweepVec g.owners g.tl (gameOrder g))^[k] (initVec g)).getD s 0 ∧
        ((sweepVec g.owners g.tl (gameOrder g))^[k] (initVec g)).getD s 0 ≤ v.getD s 0 := by
  refine ⟨cexGame, #[1], cex_wf, cex_value, ?_⟩
  rintro ⟨N, h⟩
  have := (h N le_rfl 0 (by decide)).1
  rw [cex_iter] at this
  norm_num at this

end CR.C01
