/-
Property C04, exact form: reachability strategies in terms of the TRUE VALUES of the game.

`C04.strat_argmax_reported` describes the reported strategy as the arg-max / arg-min list of the
rounded REPORTED probabilities.  When the last sweep of the reachability loop changed nothing, the
reported probabilities are the value of the game (`C01.reach_exact_of_zero_diff'`), so the
reported strategy is exactly the arg-max / arg-min list, in transition order, of the rounded true
values of the successors — over an arbitrary linearly ordered field `K`, for an arbitrary rounding
function, threshold, fuel and pruning flag.

"The value" is `C01.IsValue` (the least pre-fixed point of the Bellman operator); under the
hypotheses of this file it exists: it is the reported vector (`reported_is_value_of_exact`).
-/
import CR.Props.C04
import CR.Props.C01Path
import CR.Lemmas.Rew

namespace CR.C04
open CR CR.VI

variable {K : Type} [Field K] [LinearOrder K] [IsStrictOrderedRing K]
variable {rnd : K → Int} {thr : K} {fuel : Nat} {prune : Bool} {g : Game K} {r : ReachOut K}

/-- the hypothesis `IsValue g v` below is satisfiable whenever the other hypotheses hold: if the
last sweep changed nothing, the reported vector IS the value (it is a pre-fixed point by
`C01.reach_exact_of_zero_diff'` and below every pre-fixed point by `C01.reach_le_prefixed`) -/
theorem reported_is_value_of_exact (hwf : C01.WF g)
    (H : solveReach rnd thr fuel prune g = .ok r) (x : Array K)
    (hsw : sweepReach g.owners g.tl r.order x = (r.probs, 0)) : C01.IsValue g r.probs :=
  C01.isValue_of_zero_diff hwf H x hsw

/-- **C04, exact form.**  If the last sweep changed nothing (`sweepReach … x = (r.probs, 0)`) and
`v` is the value of the game, then for every Player-1 state the reported strategy is EXACTLY the
list, in transition order, of the actions whose successor's rounded TRUE VALUE equals the
maximum of the rounded true values over the row (clamped below by the literal `0`), and for every
Player-2 state the list of those equal to the minimum (clamped above by `rnd 1`); probabilistic
states have no strategy.  (Successor indices are in range by `C01.WF`, which `init_states`
guarantees: `initStates_eq_ok`.) -/
theorem strat_optimal_of_exact (hwf : C01.WF g) (H : solveReach rnd thr fuel prune g = .ok r)
    (x : Array K) (hsw : sweepReach g.owners g.tl r.order x = (r.probs, 0))
    (v : Array K) (hv : C01.IsValue g v) :
    (∀ s, g.owners.getD s .prob = .p1 →
      r.strat.getD s none = some
        (((g.tl.getD s []).filter (fun t => rnd (v.getD t.tgt 0) ==
            (g.tl.getD s []).foldl (fun m t => max m (rnd (v.getD t.tgt 0))) 0)).map
          (·.act))) ∧
    (∀ s, g.owners.getD s .prob = .p2 →
      r.strat.getD s none = some
        (((g.tl.getD s []).filter (fun t => rnd (v.getD t.tgt 0) ==
            (g.tl.getD s []).foldl (fun m t => min m (rnd (v.getD t.tgt 0))) (rnd 1))).map
          (·.act))) ∧
    (∀ s, g.owners.getD s .prob = .prob → r.strat.getD s none = none) := by
  obtain ⟨_, h1, h2, h3⟩ := strat_argmax_reported H
  have hex := (C01.reach_exact_of_zero_diff' hwf H x hsw).2 v hv
  have hkey : ∀ s, g.owners.getD s .prob ≠ .prob → ∀ t ∈ g.tl.getD s [],
      rnd (r.probs.getD t.tgt 0) = rnd (v.getD t.tgt 0) := by
    intro s hs t ht
    rw [hex t.tgt (hwf.2.1 s (owner_lt_size hs) t ht)]
  refine ⟨fun s hp => ?_, fun s hp => ?_, h3⟩
  · rw [h1 s hp]
    exact congrArg (fun l => some (l.map (·.act)))
      (argList_congr _ _ max 0 _ (hkey s (by rw [hp]; simp)))
  · rw [h2 s hp]
    exact congrArg (fun l => some (l.map (·.act)))
      (argList_congr _ _ min (rnd 1) _ (hkey s (by rw [hp]; simp)))

/-- **every listed action is value-optimal up to rounding** (monotone rounding function).
Under the hypotheses of `strat_optimal_of_exact`, every action listed for a Player-1 state is
carried by a successor `t` of the state such that no successor `t'` has a larger rounded true
value, and a successor whose true value is at least that of `t` has the SAME rounded value (so
`t` is a true maximiser, or differs from one by less than the rounding resolution); dually for
Player 2.  (The inequality between the rounded values does not need monotonicity.) -/
theorem strat_optimal_of_exact_exactcmp (hmono : ∀ a b : K, a ≤ b → rnd a ≤ rnd b)
    (hwf : C01.WF g) (H : solveReach rnd thr fuel prune g = .ok r)
    (x : Array K) (hsw : sweepReach g.owners g.tl r.order x = (r.probs, 0))
    (v : Array K) (hv : C01.IsValue g v) (s : Nat) (l : List String)
    (hl : r.strat.getD s none = some l) :
    (g.owners.getD s .prob = .p1 → ∀ a ∈ l, ∃ t ∈ g.tl.getD s [], t.act = a ∧
      ∀ t' ∈ g.tl.getD s [], rnd (v.getD t'.tgt 0) ≤ rnd (v.getD t.tgt 0) ∧
        (v.getD t.tgt 0 ≤ v.getD t'.tgt 0 → rnd (v.getD t'.tgt 0) = rnd (v.getD t.tgt 0))) ∧
    (g.owners.getD s .prob = .p2 → ∀ a ∈ l, ∃ t ∈ g.tl.getD s [], t.act = a ∧
      ∀ t' ∈ g.tl.getD s [], rnd (v.getD t.tgt 0) ≤ rnd (v.getD t'.tgt 0) ∧
        (v.getD t'.tgt 0 ≤ v.getD t.tgt 0 → rnd (v.getD t'.tgt 0) = rnd (v.getD t.tgt 0))) := by
  obtain ⟨h1, h2, _⟩ := strat_optimal_of_exact hwf H x hsw v hv
  constructor
  · intro hp a ha
    rw [h1 s hp, ← bestStrat_eq_filter] at hl
    rw [← Option.some.inj hl] at ha
    obtain ⟨t, htm, rfl, _, hbest⟩ := (mem_bestStrat_iff rnd v _).1 ha
    exact ⟨t, htm, rfl, fun t' ht' =>
      ⟨hbest t' ht', fun hvv => le_antisymm (hbest t' ht') (hmono _ _ hvv)⟩⟩
  · intro hp a ha
    rw [h2 s hp, ← worstStratFrom_eq_filter] at hl
    rw [← Option.some.inj hl] at ha
    obtain ⟨t, htm, rfl, _, hbest⟩ := (mem_worstStratFrom_iff rnd _ v _).1 ha
    exact ⟨t, htm, rfl, fun t' ht' =>
      ⟨hbest t' ht', fun hvv => le_antisymm (hmono _ _ hvv) (hbest t' ht')⟩⟩

/-- **every value-optimal action is listed** (monotone rounding function with `rnd 0 = 0`,
which `round(·, 6)` satisfies).  Under the hypotheses of `strat_optimal_of_exact`, the action of
every successor of a Player-1 state whose true value is maximal over the row is in the reported
strategy, and the action of every successor of a Player-2 state whose true value is minimal over
the row is in the reported strategy. -/
theorem strat_contains_optimal_of_exact (hmono : ∀ a b : K, a ≤ b → rnd a ≤ rnd b)
    (h0 : rnd 0 = 0) (hwf : C01.WF g) (H : solveReach rnd thr fuel prune g = .ok r)
    (x : Array K) (hsw : sweepReach g.owners g.tl r.order x = (r.probs, 0))
    (v : Array K) (hv : C01.IsValue g v) (s : Nat) :
    (g.owners.getD s .prob = .p1 → ∀ t ∈ g.tl.getD s [],
      (∀ t' ∈ g.tl.getD s [], v.getD t'.tgt 0 ≤ v.getD t.tgt 0) →
      ∃ l, r.strat.getD s none = some l ∧ t.act ∈ l) ∧
    (g.owners.getD s .prob = .p2 → ∀ t ∈ g.tl.getD s [],
      (∀ t' ∈ g.tl.getD s [], v.getD t.tgt 0 ≤ v.getD t'.tgt 0) →
      ∃ l, r.strat.getD s none = some l ∧ t.act ∈ l) := by
  obtain ⟨h1, h2, _⟩ := strat_optimal_of_exact hwf H x hsw v hv
  have hrange : ∀ t ∈ g.tl.getD s [], g.owners.getD s .prob ≠ .prob →
      0 ≤ v.getD t.tgt 0 ∧ v.getD t.tgt 0 ≤ 1 := by
    intro t ht hs
    rw [← (C01.reach_exact_of_zero_diff' hwf H x hsw).2 v hv t.tgt
      (hwf.2.1 s (owner_lt_size hs) t ht)]
    exact C01.reach_range hwf H t.tgt
  constructor
  · intro hp t ht hopt
    refine ⟨_, h1 s hp, ?_⟩
    rw [← bestStrat_eq_filter]
    exact (mem_bestStrat_iff rnd v _).2 ⟨t, ht, rfl,
      h0 ▸ hmono _ _ (hrange t ht (by rw [hp]; simp)).1, fun u hu => hmono _ _ (hopt u hu)⟩
  · intro hp t ht hopt
    refine ⟨_, h2 s hp, ?_⟩
    rw [← worstStratFrom_eq_filter]
    exact (mem_worstStratFrom_iff rnd _ v _).2 ⟨t, ht, rfl,
      hmono _ _ (hrange t ht (by rw [hp]; simp)).2, fun u hu => hmono _ _ (hopt u hu)⟩

/-! ### non-vacuity: all hypotheses hold together on the 6-state game over `Rat`

(`g6`: a three-way tie at the Player-1 state 0, a Player-2 state 1 choosing the smaller value;
the run is `Examples.g6_reach_true`.) -/

section NonVacuity
open Examples

/-- a run whose last sweep changed nothing, on a well-formed game with a Player-1 and a Player-2
state; the value is the reported vector `[1/2, 1/2, 1/2, 1/2, 1, 0]`; the strategies are the
arg-max list `a, b, c` (all three successors have value 1/2) and the arg-min list `y`
(value 1/2 against 1) of the TRUE values -/
example : ∃ r, solveReach (roundRat 6) Examples.thr 1000 true g6 = .ok r ∧
    C01.IsValue g6 r.probs ∧ r.probs = #[1/2, 1/2, 1/2, 1/2, 1, 0] ∧
    r.strat.getD 0 none = some
      (((g6.tl.getD 0 []).filter (fun t => roundRat 6 (r.probs.getD t.tgt 0) ==
          (g6.tl.getD 0 []).foldl (fun m t => max m (roundRat 6 (r.probs.getD t.tgt 0))) 0)).map
        (·.act)) ∧
    r.strat.getD 0 none = some ["a", "b", "c"] ∧ r.strat.getD 1 none = some ["y"] := by
  have g6_wf : C01.WF g6 := by decide +kernel
  have hsw : sweepReach g6.owners g6.tl g6reach.order g6reach.probs = (g6reach.probs, 0) := by
    decide +kernel
  have hv := reported_is_value_of_exact g6_wf g6_reach_true g6reach.probs hsw
  exact ⟨_, g6_reach_true, hv, rfl,
    (strat_optimal_of_exact g6_wf g6_reach_true g6reach.probs hsw g6reach.probs hv).1 0 rfl, rfl, rfl⟩

/-- the rounding function of the `Rat` instance satisfies the hypotheses of the two corollaries -/
example : (∀ a b : Rat, a ≤ b → roundRat 6 a ≤ roundRat 6 b) ∧ roundRat 6 (0 : Rat) = 0 :=
  ⟨CR.Rew.roundRat_mono 6, by decide +kernel⟩

end NonVacuity

end CR.C04
