/-
What the two unique-reading theorems (`ReportLemmas.renderVal_prefix`, `TextLemmas.renderC_prefix`) share.
A printed value is read off the front of a text in one way only, provided what FOLLOWS it (`Tail D`: nothing, or
a delimiter) cannot be taken for more of it: an atom has no delimiter inside (`split_unique`), a quoted string
ends at its first quote (`quote_unique`), a bracketed sequence is read element by element (`sepBy_prefix`), and
the first character tells which of these it is (`Head`).
-/

namespace CR.Chars

/-- said of the text that follows an element; nothing to do with `List.tail` -/
def Tail {α : Type} (D : α → Prop) (s : List α) : Prop := ∀ c ∈ s.head?, D c

theorem tail_nil {α : Type} {D : α → Prop} : Tail D [] := nofun

theorem tail_cons {α : Type} {D : α → Prop} {c : α} (s : List α) (h : D c) : Tail D (c :: s) :=
  fun _ hc => Option.some.inj (Option.mem_def.1 hc) ▸ h

/-- `l` begins with a non-delimiter of class `k` -/
def Head (cls : Char → Nat) (D : Char → Prop) (k : Nat) (l : List Char) : Prop :=
  ∃ c r, l = c :: r ∧ cls c = k ∧ ¬ D c

section Head
variable {cls : Char → Nat} {D : Char → Prop} {k k' : Nat} {l l' : List Char}

theorem Head.kind_eq (h : Head cls D k l) (h' : Head cls D k' l') {s t : List Char}
    (e : l ++ s = l' ++ t) : k = k' := by
  obtain ⟨c, r, rfl, hk, _⟩ := h
  obtain ⟨c', r', rfl, hk', _⟩ := h'
  obtain ⟨rfl, _⟩ := List.cons.inj e
  exact hk.symm.trans hk'

theorem Head.ne_cons (h : Head cls D k l) {c : Char} (hc : D c) (u s : List Char) :
    l ++ u ≠ c :: s := by
  obtain ⟨d, r, rfl, _, hd⟩ := h
  exact fun e => hd ((List.cons.inj e).1 ▸ hc)

end Head

theorem split_unique {α : Type} {D : α → Prop} : ∀ {l1 l2 s t : List α}, (∀ c ∈ l1, ¬ D c) →
    (∀ c ∈ l2, ¬ D c) → Tail D s → Tail D t → l1 ++ s = l2 ++ t →
    l1 = l2 ∧ s = t
  | [], [] => fun _ _ _ _ h => ⟨rfl, h⟩
  | [], c :: _ => fun _ h2 hs _ h => by
    subst h; exact absurd (hs c rfl) (h2 c (.head _))
  | c :: _, [] => fun h1 _ _ ht h => by
    subst h; exact absurd (ht c rfl) (h1 c (.head _))
  | c :: l1, c' :: l2 => fun h1 h2 hs ht h => by
    obtain ⟨rfl, h'⟩ := List.cons.inj h
    obtain ⟨rfl, rfl⟩ := split_unique (fun x hx => h1 x (.tail _ hx))
      (fun x hx => h2 x (.tail _ hx)) hs ht h'
    exact ⟨rfl, rfl⟩

theorem quote_unique {l1 l2 s t : List Char} (h1 : '\'' ∉ l1) (h2 : '\'' ∉ l2)
    (h : '\'' :: (l1 ++ ['\'']) ++ s = '\'' :: (l2 ++ ['\'']) ++ t) : l1 = l2 ∧ s = t := by
  simp only [List.cons_append, List.cons.injEq, true_and, List.append_assoc, List.nil_append] at h
  obtain ⟨rfl, h'⟩ := split_unique (D := (· = '\'')) (fun c hc e => h1 (e ▸ hc))
    (fun c hc e => h2 (e ▸ hc)) (tail_cons _ rfl) (tail_cons _ rfl) h
  exact ⟨rfl, (List.cons.inj h').2⟩

/-- no `f x` is continued to an `f y` by the beginning of a text in `T` -/
def PrefixFree {α : Type} (f : α → List Char) (T : List Char → Prop) (x y : α) : Prop :=
  ∀ u v, T u → T v → f x ++ u = f y ++ v → x = y ∧ u = v

section sepBy
variable {α : Type} (f : α → List Char) (sep : List Char)

def sepBy : List α → List Char
  | [] => []
  | [x] => f x
  | x :: y :: r => f x ++ (sep ++ sepBy (y :: r))

theorem sepBy_cons (x : α) : ∀ r : List α, ∃ u, sepBy f sep (x :: r) = f x ++ u
  | [] => ⟨[], (List.append_nil _).symm⟩
  | _ :: _ => ⟨_, rfl⟩

/-- `T`: what may follow an element; `C`: the closing texts, which are not mistaken for the beginning of an
element, with or without a separator before it (the second hypothesis). -/
theorem sepBy_prefix (T C : List Char → Prop) (hC : ∀ s, C s → T s) (hsep : ∀ z, T (sep ++ z)) :
    ∀ (xs ys : List α), (∀ x ∈ xs, ∀ y ∈ ys, PrefixFree f T x y) →
    (∀ x, x ∈ xs ∨ x ∈ ys → ∀ s z, C s → s ≠ f x ++ z ∧ s ≠ sep ++ (f x ++ z)) →
    PrefixFree (sepBy f sep) C xs ys
  | [], [] => fun _ _ _ _ _ _ h => ⟨rfl, h⟩
  | [], y :: r => fun _ hn s t hs _ h => by
    obtain ⟨u, hu⟩ := sepBy_cons f sep y r
    rw [hu, List.append_assoc] at h
    exact absurd h (hn y (.inr (.head _)) s _ hs).1
  | x :: r, [] => fun _ hn s t _ ht h => by
    obtain ⟨u, hu⟩ := sepBy_cons f sep x r
    rw [hu, List.append_assoc] at h
    exact absurd h.symm (hn x (.inl (.head _)) t _ ht).1
  | [x], [y] => fun he _ s t hs ht h => by
    obtain ⟨rfl, rfl⟩ := he x (.head _) y (.head _) s t (hC s hs) (hC t ht) h
    exact ⟨rfl, rfl⟩
  | [x], y :: y' :: r => fun he hn s t hs _ h => by
    obtain ⟨u, hu⟩ := sepBy_cons f sep y' r
    rw [sepBy, sepBy, hu, List.append_assoc, List.append_assoc, List.append_assoc] at h
    obtain ⟨rfl, h'⟩ := he x (.head _) y (.head _) s _ (hC s hs) (hsep _) h
    exact absurd h' (hn y' (.inr (.tail _ (.head _))) s _ hs).2
  | x :: x' :: r, [y] => fun he hn s t _ ht h => by
    obtain ⟨u, hu⟩ := sepBy_cons f sep x' r
    rw [sepBy, sepBy, hu, List.append_assoc, List.append_assoc, List.append_assoc] at h
    obtain ⟨rfl, h'⟩ := he x (.head _) y (.head _) _ t (hsep _) (hC t ht) h
    exact absurd h'.symm (hn x' (.inl (.tail _ (.head _))) t _ ht).2
  | x :: x' :: r, y :: y' :: r' => fun he hn s t hs ht h => by
    rw [sepBy, sepBy, List.append_assoc, List.append_assoc, List.append_assoc,
      List.append_assoc] at h
    obtain ⟨rfl, h'⟩ := he x (.head _) y (.head _) _ _ (hsep _) (hsep _) h
    obtain ⟨h1, rfl⟩ := sepBy_prefix T C hC hsep (x' :: r) (y' :: r')
      (fun a ha b hb => he a (.tail _ ha) b (.tail _ hb))
      (fun a ha => hn a (ha.imp (.tail _) (.tail _))) s t hs ht (List.append_cancel_left h')
    exact ⟨by rw [h1], rfl⟩

theorem sepBy_prefix_close (T : List Char → Prop) (c : Char) (hc : ∀ s, T (c :: s))
    (hsep : ∀ z, T (sep ++ z)) (xs ys : List α) (he : ∀ x ∈ xs, ∀ y ∈ ys, PrefixFree f T x y)
    (hn : ∀ x, x ∈ xs ∨ x ∈ ys → ∀ s z, c :: s ≠ f x ++ z ∧ c :: s ≠ sep ++ (f x ++ z))
    (s t : List Char) (h : sepBy f sep xs ++ c :: s = sepBy f sep ys ++ c :: t) :
    xs = ys ∧ s = t := by
  obtain ⟨rfl, h2⟩ := sepBy_prefix f sep T (fun s => ∃ s', s = c :: s') (fun _ ⟨_, e⟩ => e ▸ hc _)
    hsep xs ys he (fun x hx _ z ⟨_, e⟩ => e ▸ hn x hx _ z) _ _ ⟨s, rfl⟩ ⟨t, rfl⟩ h
  exact ⟨rfl, (List.cons.inj h2).2⟩

end sepBy

theorem toDigits_inj {n m : Nat} (h : Nat.toDigits 10 n = Nat.toDigits 10 m) : n = m := by
  have := congrArg (Nat.ofDigitChars 10 · 0) h
  simpa only [Nat.ofDigitChars_ten_toDigits] using this

theorem int_toString_toList (i : Int) : (toString i).toList =
    if 0 ≤ i then Nat.toDigits 10 i.toNat else '-' :: Nat.toDigits 10 (-i).toNat := by
  rw [Int.toString_eq_repr, Int.repr_eq_if]
  split
  · exact Nat.toList_repr
  · rw [String.toList_append, Nat.toList_repr]; rfl

theorem int_toString_chars (i : Int) : ∀ c ∈ (toString i).toList, c.isDigit = true ∨ c = '-' := by
  intro c hc
  rw [int_toString_toList] at hc
  split at hc
  · exact Or.inl (Nat.isDigit_of_mem_toDigits (by decide) (by decide) hc)
  · rcases List.mem_cons.1 hc with rfl | hc
    · exact Or.inr rfl
    · exact Or.inl (Nat.isDigit_of_mem_toDigits (by decide) (by decide) hc)

/-- `hd` is closed by `rfl` for a concrete `d` -/
theorem digit_ne {c d : Char} (h : c.isDigit = true ∨ c = '-')
    (hd : (d.isDigit || d == '-') = false) : c ≠ d := by
  rintro rfl
  rcases h with h | rfl
  · rw [h] at hd; cases hd
  · cases hd

theorem int_toString_ne_nil (i : Int) : (toString i).toList ≠ [] := by
  rw [int_toString_toList]
  split
  · exact Nat.toDigits_ne_nil
  · exact List.cons_ne_nil _ _

theorem int_toString_ne_cons (i : Int) (c : Char) (r : List Char)
    (hc : (c.isDigit || c == '-') = false) : (toString i).toList ≠ c :: r :=
  fun e => digit_ne (int_toString_chars i c (e ▸ .head _)) hc rfl

theorem int_toString_inj {i j : Int} (h : (toString i : String) = toString j) : i = j := by
  have h' := congrArg String.toList h
  have hd : ∀ (n : Nat) (r : List Char), Nat.toDigits 10 n ≠ '-' :: r := fun n r e =>
    absurd (Nat.isDigit_of_mem_toDigits (by decide) (by decide) (e ▸ List.mem_cons_self)) (by decide)
  rw [int_toString_toList, int_toString_toList] at h'
  split at h' <;> split at h'
  · have := toDigits_inj h'; omega
  · exact absurd h' (hd _ _)
  · exact absurd h'.symm (hd _ _)
  · have := toDigits_inj (List.cons.inj h').2; omega

end CR.Chars
