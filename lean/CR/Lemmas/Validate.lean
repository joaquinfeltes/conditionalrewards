/-
The dynamically typed validator (`CR/Model/Validate.lean`) and the batch runner (`CR/Model/Batch.lean`),
preceded by the notions in which the property theorems of `CR/Props/C09.lean` and `CR/Props/C12.lean` are
stated.  `validate` is nine named guards in sequence (`validate_eq`); what they ask in the code's order is
`Checks`, which is the order-free `DocWellFormed` (`validate_ok_iff`); every guard raises `Err.malformed`
(`OnlyMalformed`).  `runGames` succeeds iff every single run does and then writes the entries of the games to
the dict in turn (`runGames_loop_ok_iff`); under distinct result keys that is `flatMap entriesOf`
(`runGames_ok_iff`).
-/
import CR.Model.Batch
import CR.Lemmas.Basic

namespace CR.C09
open CR CR.Py

/-- The documented well-formedness rules, as a proposition that does not depend on the order
in which the code checks them (`n := g.players.length` is the number of states):
list lengths agree; no negative reward; at least one final state, all within `0..n-1`;
only the three documented players; every state has a non-empty *list* of 2-tuples whose first
slot is a number (probabilistic states) resp. a string (player states) and whose second slot
is an integer within `0..n-1`. -/
def DocWellFormed (g : PyGame) : Prop :=
  g.tl.length = g.players.length ∧ g.rewards.length = g.players.length ∧
  (∀ r ∈ g.rewards, r.isNeg = false) ∧
  g.finals ≠ [] ∧ (∀ f ∈ g.finals, 0 ≤ f ∧ f < (g.players.length : Int)) ∧
  (∀ p ∈ g.players, p = "Player 1" ∨ p = "Player 2" ∨ p = "Probabilistic") ∧
  (∀ k, k < g.players.length → ∃ xs, g.tl.getD k .none = .list xs ∧ xs ≠ [] ∧
    ∀ e ∈ xs, ∃ a b i, e = .tuple [a, b] ∧
      (g.players.getD k "" = "Probabilistic" → isNumber a = true) ∧
      (g.players.getD k "" ≠ "Probabilistic" → isStr a = true) ∧
      asInt b = some i ∧ 0 ≤ i ∧ i < (g.players.length : Int))

end CR.C09

namespace CR.C12
open CR CR.Py CR.Batch

/-- the keys written by a batch run, in run order -/
def keysOf (games : List (String × PyGame)) : List String :=
  games.flatMap (fun ng => [ng.1, ng.1 ++ "_no_prune"])

/-- `d[k]` on the result dict -/
def lookup (d : List (String × Entry)) (k : String) : Option Entry :=
  (d.find? (fun kv => kv.1 == k)).map (·.2)

end CR.C12

namespace CR
namespace ValidateLemmas
open CR CR.Py CR.Batch

theorem forM_nil' {ε α : Type} (f : α → Except ε Unit) : ([] : List α).forM f = .ok () := rfl

theorem bind_ok_iff {ε : Type} (x : Except ε Unit) (k : Unit → Except ε Unit) :
    (x >>= k) = .ok () ↔ x = .ok () ∧ k () = .ok () :=
  bind_eq_ok.trans ⟨fun ⟨(), h⟩ => h, fun h => ⟨(), h⟩⟩

theorem forM_ok_iff {ε α : Type} (f : α → Except ε Unit) :
    ∀ l : List α, l.forM f = .ok () ↔ ∀ x ∈ l, f x = .ok ()
  | [] => by simp [forM_nil']
  | a :: l => by
    show (f a >>= fun _ => l.forM f) = _ ↔ _
    rw [bind_ok_iff, forM_ok_iff f l, List.forall_mem_cons]

/-- one guard of the validation: `if c: raise ValueError(m)` -/
def check (c : Prop) [Decidable c] (m : String) : Except Err Unit :=
  if c then throw (.malformed m) else pure ()

/-- the shape in which `do`-notation elaborates a guard followed by the rest of the block -/
theorem guard_bind {α : Type} (c : Prop) [Decidable c] (m : String) (k : PUnit → Except Err α) :
    (if c then (throw (Err.malformed m) >>= k) else k ⟨⟩) = (check c m >>= k) := by
  unfold check; split <;> rfl

theorem check_ok_iff (c : Prop) [Decidable c] (m : String) : check c m = .ok () ↔ ¬ c := by
  unfold check; split
  · exact ⟨nofun, fun h => absurd ‹c› h⟩
  · exact ⟨fun _ => ‹¬ c›, fun _ => rfl⟩

def OnlyMalformed {α : Type} (x : Except Err α) : Prop :=
  ∀ e, x = .error e → ∃ rule, e = .malformed rule

theorem onlyMalformed_pure {α : Type} (a : α) : OnlyMalformed (pure a : Except Err α) := nofun

theorem onlyMalformed_throw {α : Type} (m : String) :
    OnlyMalformed (throw (.malformed m) : Except Err α) :=
  fun _ h => ⟨m, (Except.error.inj h).symm⟩

theorem onlyMalformed_check (c : Prop) [Decidable c] (m : String) : OnlyMalformed (check c m) := by
  unfold check; split
  · exact onlyMalformed_throw m
  · exact onlyMalformed_pure _

theorem onlyMalformed_bind {α β : Type} {x : Except Err α} {k : α → Except Err β}
    (hx : OnlyMalformed x) (hk : ∀ a, OnlyMalformed (k a)) : OnlyMalformed (x >>= k) := by
  cases x with
  | error e => exact fun e' h => hx e' (by cases h; rfl)
  | ok a => exact hk a

theorem onlyMalformed_forM {α : Type} {f : α → Except Err Unit} :
    ∀ l : List α, (∀ a ∈ l, OnlyMalformed (f a)) → OnlyMalformed (l.forM f)
  | [], _ => onlyMalformed_pure _
  | a :: l, h => onlyMalformed_bind (h a (.head _))
      fun _ => onlyMalformed_forM l fun b hb => h b (.tail _ hb)

/-- the check of the successor slot of a transition: `isinstance(b, int)` and `0 <= b < n` -/
def checkTgt (n : Nat) (b : PyVal) : Except Err Unit :=
  match asInt b with
  | Option.none => throw (.malformed "next state must be an int")
  | some i => check (i < 0 || i ≥ (n : Int)) "next state out of range"

theorem checkTgt_ok_iff (n : Nat) (b : PyVal) :
    checkTgt n b = .ok () ↔ ∃ i, asInt b = some i ∧ 0 ≤ i ∧ i < (n : Int) := by
  unfold checkTgt
  cases asInt b with
  | none => exact ⟨nofun, nofun⟩
  | some i => rw [check_ok_iff]; simp

theorem checkTgt_onlyMalformed (n : Nat) (b : PyVal) : OnlyMalformed (checkTgt n b) := by
  unfold checkTgt; split
  · exact onlyMalformed_throw _
  · exact onlyMalformed_check _ _

/-- the documented rule for one entry of the transition list of a state that is probabilistic (`prob`) or a
player's -/
def GoodTr (n : Nat) (prob : Prop) (e : PyVal) : Prop :=
  ∃ a b i, e = .tuple [a, b] ∧ (prob → isNumber a = true) ∧ (¬ prob → isStr a = true) ∧
    asInt b = some i ∧ 0 ≤ i ∧ i < (n : Int)

theorem goodTr_pair (n : Nat) (prob : Prop) (a b : PyVal) : GoodTr n prob (.tuple [a, b]) ↔
    (prob → isNumber a = true) ∧ (¬ prob → isStr a = true) ∧
      ∃ i, asInt b = some i ∧ 0 ≤ i ∧ i < (n : Int) :=
  ⟨fun ⟨_, _, i, he, h⟩ => by cases he; exact ⟨h.1, h.2.1, i, h.2.2⟩,
    fun ⟨h1, h2, i, h3⟩ => ⟨a, b, i, rfl, h1, h2, h3⟩⟩

theorem checkNextStates_ok_iff (n : Nat) (o : Owner) (v : PyVal) :
    checkNextStates n o v = .ok () ↔ ∃ xs, v = .list xs ∧ ∀ e ∈ xs, GoodTr n (o = .prob) e := by
  unfold checkNextStates
  split
  · rw [forM_ok_iff]
    simp only [PyVal.list.injEq, exists_eq_left']
    refine forall₂_congr fun e _ => ?_
    split
    · rename_i a b _
      rw [goodTr_pair]
      simp only [guard_bind]
      -- each branch of `match o` is a guard on the first slot followed by `checkTgt n b`
      have key : ∀ (c : Prop) [Decidable c] (m : String),
          (check c m >>= fun _ => checkTgt n b) = .ok () ↔
            ¬ c ∧ ∃ i, asInt b = some i ∧ 0 ≤ i ∧ i < (n : Int) := fun c _ m => by
        rw [bind_ok_iff, check_ok_iff, checkTgt_ok_iff]
      cases o
      · exact (key _ _).trans (by simp)
      · exact (key _ _).trans (by simp)
      · exact (key _ _).trans (by simp)
    · rename_i hne _
      exact ⟨nofun, fun ⟨a, b, _, he, _⟩ => (hne a b (PyVal.tuple.inj he)).elim⟩
    · rename_i hne _
      exact ⟨nofun, fun ⟨a, b, _, he, _⟩ => (hne a b he).elim⟩
  · rename_i hne
    exact ⟨nofun, fun ⟨xs, he, _⟩ => absurd he (hne xs)⟩

theorem checkNextStates_onlyMalformed (n : Nat) (o : Owner) (v : PyVal) :
    OnlyMalformed (checkNextStates n o v) := by
  unfold checkNextStates
  split
  · refine onlyMalformed_forM _ fun e _ => ?_
    split
    · simp only [guard_bind]
      split <;>
        exact onlyMalformed_bind (onlyMalformed_check _ _) fun _ => checkTgt_onlyMalformed n _
    · exact onlyMalformed_throw _
    · exact onlyMalformed_throw _
  · exact onlyMalformed_throw _

/-- the per-state step of `init_states` -/
def checkState (n : Nat) (pv : String × PyVal) : Except Err Unit :=
  if truthy pv.2 then checkNextStates n ((playerOf pv.1).getD .prob) pv.2 else pure ()

theorem checkState_onlyMalformed (n : Nat) (pv : String × PyVal) :
    OnlyMalformed (checkState n pv) := by
  unfold checkState; split
  · exact checkNextStates_onlyMalformed _ _ _
  · exact onlyMalformed_pure _

theorem validate_eq (g : PyGame) : validate g = (do
    check (g.tl.length ≠ g.players.length) "transition list length"
    check (g.rewards.length ≠ g.players.length) "reward list length"
    check (g.rewards.isEmpty) "min of empty rewards"
    check (g.rewards.any PyNum.isNeg) "negative reward"
    check (g.finals.isEmpty) "max of empty final states"
    check (g.finals.any (fun f => f ≥ (g.players.length : Int) || f < 0)) "final state out of range"
    check (g.players.any (fun p => (playerOf p).isNone)) "unknown player"
    (g.players.zip g.tl).forM (checkState g.players.length)
    check (g.tl.any (fun v => !truthy v)) "missing transitions") := by
  simp only [validate, guard_bind]
  rfl

theorem validate_error (g : PyGame) : OnlyMalformed (validate g) := by
  rw [validate_eq]
  iterate 7 refine onlyMalformed_bind (onlyMalformed_check _ _) fun _ => ?_
  exact onlyMalformed_bind (onlyMalformed_forM _ fun _ _ => checkState_onlyMalformed _ _)
    fun _ => onlyMalformed_check _ _

def Known (p : String) : Prop := p = "Player 1" ∨ p = "Player 2" ∨ p = "Probabilistic"

theorem playerOf_isNone (p : String) : (playerOf p).isNone = false ↔ Known p := by
  unfold playerOf Known
  by_cases h1 : p = "Player 1"
  · simp [h1]
  by_cases h2 : p = "Player 2"
  · simp [h2]
  by_cases h3 : p = "Probabilistic"
  · simp [h3]
  simp [h1, h2, h3]

theorem owner_iff (p : String) (h : Known p) :
    ((playerOf p).getD .prob = .p1 ↔ p = "Player 1") ∧
    ((playerOf p).getD .prob = .p2 ↔ p = "Player 2") ∧
    ((playerOf p).getD .prob = .prob ↔ p = "Probabilistic") := by
  rcases h with rfl | rfl | rfl <;> simp [playerOf] <;> decide

/-- what the guards of `validate` ask, in the code's order -/
def Checks (g : PyGame) : Prop :=
  g.tl.length = g.players.length ∧ g.rewards.length = g.players.length ∧ g.rewards ≠ [] ∧
  (∀ r ∈ g.rewards, r.isNeg = false) ∧ g.finals ≠ [] ∧
  (∀ f ∈ g.finals, f < (g.players.length : Int) ∧ 0 ≤ f) ∧ (∀ p ∈ g.players, Known p) ∧
  (∀ pv ∈ g.players.zip g.tl, checkState g.players.length pv = .ok ()) ∧
  ∀ v ∈ g.tl, truthy v = true

theorem validate_ok_iff_checks (g : PyGame) : validate g = .ok () ↔ Checks g := by
  -- each guard `check c m` contributes `¬ c` (`bind_ok_iff`, `check_ok_iff`), the loop its per-state statement
  -- (`forM_ok_iff`); the remaining lemmas only put the negated Boolean tests into the form written in `Checks`
  simp only [validate_eq, bind_ok_iff, check_ok_iff, forM_ok_iff, Checks, ← playerOf_isNone,
    List.any_eq_true, List.isEmpty_iff, not_exists, not_and, Bool.or_eq_true, decide_eq_true_eq,
    not_or, ge_iff_le, Int.not_le, Int.not_lt, ne_eq, Decidable.not_not, Bool.not_eq_true,
    Bool.not_eq_eq_eq_not, Bool.not_true, Bool.not_eq_false]

/-- the last clause of `DocWellFormed`, for one state -/
def GoodState (n : Nat) (p : String) (v : PyVal) : Prop :=
  ∃ xs, v = .list xs ∧ xs ≠ [] ∧ ∀ e ∈ xs, GoodTr n (p = "Probabilistic") e

theorem truthy_list (xs : List PyVal) : truthy (.list xs) = true ↔ xs ≠ [] := by
  cases xs <;> simp [truthy]

theorem goodState_iff (n : Nat) (p : String) (v : PyVal) (hp : Known p) :
    (checkState n (p, v) = .ok () ∧ truthy v = true) ↔ GoodState n p v := by
  unfold checkState GoodState
  constructor
  · rintro ⟨h1, h2⟩
    rw [if_pos h2, checkNextStates_ok_iff, (owner_iff p hp).2.2] at h1
    obtain ⟨xs, rfl, hxs⟩ := h1
    exact ⟨xs, rfl, (truthy_list xs).1 h2, hxs⟩
  · rintro ⟨xs, rfl, hne, hxs⟩
    have ht := (truthy_list xs).2 hne
    rw [if_pos ht, checkNextStates_ok_iff, (owner_iff p hp).2.2]
    exact ⟨⟨xs, rfl, hxs⟩, ht⟩

theorem _root_.CR.C09.DocWellFormed.lengths {g : PyGame} (hw : C09.DocWellFormed g) :
    g.tl.length = g.players.length ∧ g.rewards.length = g.players.length := ⟨hw.1, hw.2.1⟩
theorem _root_.CR.C09.DocWellFormed.rewards_nonneg {g : PyGame} (hw : C09.DocWellFormed g) :
    ∀ r ∈ g.rewards, r.isNeg = false := hw.2.2.1
theorem _root_.CR.C09.DocWellFormed.finals_ne {g : PyGame} (hw : C09.DocWellFormed g) : g.finals ≠ [] :=
  hw.2.2.2.1
theorem _root_.CR.C09.DocWellFormed.finals_range {g : PyGame} (hw : C09.DocWellFormed g) :
    ∀ f ∈ g.finals, 0 ≤ f ∧ f < (g.players.length : Int) := hw.2.2.2.2.1
theorem _root_.CR.C09.DocWellFormed.players_known {g : PyGame} (hw : C09.DocWellFormed g) :
    ∀ p ∈ g.players, Known p := hw.2.2.2.2.2.1

theorem _root_.CR.C09.DocWellFormed.row {g : PyGame} (hw : C09.DocWellFormed g) {k : Nat}
    (hk : k < g.players.length) :
    GoodState g.players.length (g.players.getD k "") (g.tl.getD k .none) :=
  hw.2.2.2.2.2.2 k hk

theorem _root_.CR.C09.DocWellFormed.entry {g : PyGame} (hw : C09.DocWellFormed g) {k : Nat}
    (hk : k < g.players.length) {xs : List PyVal} (hxs : g.tl.getD k .none = .list xs) {e : PyVal}
    (he : e ∈ xs) : GoodTr g.players.length (g.players.getD k "" = "Probabilistic") e := by
  obtain ⟨xs', hxs', _, hall⟩ := hw.row hk
  cases hxs.symm.trans hxs'
  exact hall e he

theorem _root_.CR.C09.DocWellFormed.pair {g : PyGame} (hw : C09.DocWellFormed g) {k : Nat}
    (hk : k < g.players.length) {xs : List PyVal} (hxs : g.tl.getD k .none = .list xs)
    {a b : PyVal} (he : .tuple [a, b] ∈ xs) :
    (g.players.getD k "" = "Probabilistic" → isNumber a = true) ∧
      (g.players.getD k "" ≠ "Probabilistic" → isStr a = true) ∧
      ∃ i, asInt b = some i ∧ 0 ≤ i ∧ i < (g.players.length : Int) :=
  (goodTr_pair _ _ a b).1 (hw.entry hk hxs he)

theorem forall_mem_zip {α β : Type} (l1 : List α) (l2 : List β) (P : α × β → Prop) :
    (∀ x ∈ l1.zip l2, P x) ↔ ∀ k (h1 : k < l1.length) (h2 : k < l2.length), P (l1[k], l2[k]) := by
  constructor
  · intro h k h1 h2
    have hk : k < (l1.zip l2).length := by rw [List.length_zip]; exact Nat.lt_min.2 ⟨h1, h2⟩
    have := h _ (List.getElem_mem hk)
    rwa [List.getElem_zip] at this
  · intro h x hx
    obtain ⟨k, hk, rfl⟩ := List.mem_iff_getElem.1 hx
    have hk' := Nat.lt_min.1 (List.length_zip ▸ hk)
    rw [List.getElem_zip]
    exact h k hk'.1 hk'.2

theorem checks_iff_docWellFormed (g : PyGame) : Checks g ↔ C09.DocWellFormed g := by
  constructor
  · rintro ⟨h1, h2, _, h4, h5, h6, h7, h8, h9⟩
    refine ⟨h1, h2, h4, h5, fun f hf => (h6 f hf).symm, h7, fun k hk => ?_⟩
    have hk' : k < g.tl.length := h1 ▸ hk
    rw [← List.getElem_eq_getD (h := hk'), ← List.getElem_eq_getD (h := hk)]
    exact (goodState_iff _ _ _ (h7 _ (List.getElem_mem hk))).1
      ⟨(forall_mem_zip _ _ _).1 h8 k hk hk', h9 _ (List.getElem_mem hk')⟩
  · rintro ⟨h1, h2, h3, h4, h5, h6, h7⟩
    have hS : ∀ k (hk : k < g.players.length) (hk' : k < g.tl.length),
        checkState g.players.length (g.players[k], g.tl[k]) = .ok () ∧ truthy g.tl[k] = true := by
      intro k hk hk'
      have := h7 k hk
      rw [← List.getElem_eq_getD (h := hk'), ← List.getElem_eq_getD (h := hk)] at this
      exact (goodState_iff _ _ _ (h6 _ (List.getElem_mem hk))).2 this
    -- there is a final state, and it is below the number of states: so there is a reward
    have hr : g.rewards ≠ [] := by
      obtain ⟨f, hf⟩ := List.exists_mem_of_ne_nil _ h4
      have := h5 f hf
      intro hr
      rw [hr] at h2
      have : g.players.length = 0 := h2.symm
      omega
    refine ⟨h1, h2, hr, h3, h4, fun f hf => (h5 f hf).symm, h6, (forall_mem_zip _ _ _).2 ?_, ?_⟩
    · exact fun k hk hk' => (hS k hk hk').1
    · intro v hv
      obtain ⟨k, hk', rfl⟩ := List.mem_iff_getElem.1 hv
      exact (hS k (h1 ▸ hk') hk').2

theorem validate_ok_iff (g : PyGame) : validate g = .ok () ↔ C09.DocWellFormed g := by
  rw [validate_ok_iff_checks, checks_iff_docWellFormed]

theorem not_wf_of_error {g : PyGame} {e : Err} (h : validate g = .error e) : ¬ C09.DocWellFormed g :=
  fun hw => nomatch h.symm.trans ((validate_ok_iff g).2 hw)

theorem solvePy_eq (thr : Float) (fuel : Nat) (prune : Bool) (g : PyGame) :
    solvePy thr fuel prune g = match validate g with
      | .error e => .error e
      | .ok _ => solve (roundFloat 6) thr fuel prune (toGame g) := by
  show (validate g >>= fun _ => _) = _
  cases validate g <;> rfl

theorem runOne_failure (thr : Float) (fuel : Nat) (g : PyGame) (e : Err)
    (h : solvePy thr fuel true g = .error e) (hv : isValueError e = true) :
    runOne thr fuel g = .ok
      (⟨g.players.length, countTransitions g, .error e, none⟩,
       ⟨g.players.length, countTransitions g, .notSolved, none⟩) := by
  unfold runOne
  simp only [h, hv, if_true]

open CR.C12 (keysOf lookup)

theorem dictSet_new {β : Type} (d : List (String × β)) (k : String) (v : β)
    (h : k ∉ d.map (·.1)) : dictSet d k v = d ++ [(k, v)] := by
  unfold dictSet
  have : d.any (fun kv => kv.1 == k) = false := by
    rw [List.any_eq_false]
    intro x hx hk
    exact h (List.mem_map.2 ⟨x, hx, by simpa using hk⟩)
  simp [this]

theorem foldl_dictSet_fresh {β : Type} : ∀ (es d : List (String × β)), ((d ++ es).map (·.1)).Nodup →
    es.foldl (fun d kv => dictSet d kv.1 kv.2) d = d ++ es
  | [], d, _ => (List.append_nil d).symm
  | kv :: es, d, h => by
    have hk : kv.1 ∉ d.map (·.1) := fun hm =>
      (List.nodup_append.1 (List.map_append ▸ h)).2.2 _ hm _ (.head _) rfl
    rw [List.foldl_cons, dictSet_new d kv.1 kv.2 hk,
      foldl_dictSet_fresh es (d ++ [kv]) (by simpa using h), List.append_assoc]
    rfl

/-- one iteration of the loop in `runGames` -/
def runGamesStep (thr : Float) (fuel : Nat) (d : List (String × Entry)) (ng : String × PyGame) :
    Except Err (List (String × Entry)) :=
  match runOne thr fuel ng.2 with
  | .ok p => .ok (dictSet (dictSet d ng.1 p.1) (ng.1 ++ "_no_prune") p.2)
  | .error e => .error e

theorem runGames_eq (thr : Float) (fuel : Nat) (games : List (String × PyGame)) :
    runGames thr fuel games = games.foldlM (runGamesStep thr fuel) [] := by
  unfold runGames
  congr 1
  funext d ng
  unfold runGamesStep
  show (runOne thr fuel ng.2 >>= fun p => _) = _
  cases runOne thr fuel ng.2 <;> rfl

/-- the two result entries of one game (nothing if its run aborts the batch) -/
def entriesOf (thr : Float) (fuel : Nat) (ng : String × PyGame) : List (String × Entry) :=
  match runOne thr fuel ng.2 with
  | .ok p => [(ng.1, p.1), (ng.1 ++ "_no_prune", p.2)]
  | .error _ => []

theorem keys_flatMap_entriesOf (thr : Float) (fuel : Nat) (games : List (String × PyGame))
    (h : ∀ ng ∈ games, ∃ p, runOne thr fuel ng.2 = .ok p) :
    (games.flatMap (entriesOf thr fuel)).map (·.1) = keysOf games := by
  induction games with
  | nil => rfl
  | cons ng rest ih =>
    obtain ⟨p, hp⟩ := h ng (by simp)
    simp only [List.flatMap_cons, List.map_append, keysOf]
    rw [ih (fun x hx => h x (by simp [hx]))]
    simp [entriesOf, hp, keysOf]

/-- No hypothesis on the keys: what a clash does is left inside the `dictSet`s. -/
theorem runGames_loop_ok_iff (thr : Float) (fuel : Nat) (games : List (String × PyGame))
    (d0 d : List (String × Entry)) :
    games.foldlM (runGamesStep thr fuel) d0 = .ok d ↔
      (∀ ng ∈ games, ∃ p, runOne thr fuel ng.2 = .ok p) ∧
        d = (games.flatMap (entriesOf thr fuel)).foldl (fun d kv => dictSet d kv.1 kv.2) d0 := by
  induction games generalizing d0 with
  | nil =>
    -- the empty loop is `.ok d0`: both sides say `d = d0`
    exact ⟨fun h => ⟨nofun, (Except.ok.inj h).symm⟩, fun h => congrArg Except.ok h.2.symm⟩
  | cons ng rest ih =>
    rw [List.foldlM_cons, List.flatMap_cons, List.foldl_append, List.forall_mem_cons]
    cases hr : runOne thr fuel ng.2 with
    | error e =>
      simp only [runGamesStep, hr, bind, Except.bind, reduceCtorEq, exists_const, false_and]
    | ok p =>
      simp only [runGamesStep, hr, bind, Except.bind]
      rw [ih]
      simp only [Except.ok.injEq, exists_eq', true_and, entriesOf, hr, List.foldl_cons,
        List.foldl_nil]

theorem runGames_ok_iff (thr : Float) (fuel : Nat) (games : List (String × PyGame))
    (d : List (String × Entry)) (hnd : (keysOf games).Nodup) :
    runGames thr fuel games = .ok d ↔
      (∀ ng ∈ games, ∃ p, runOne thr fuel ng.2 = .ok p) ∧
        d = games.flatMap (entriesOf thr fuel) := by
  rw [runGames_eq, runGames_loop_ok_iff]
  refine and_congr_right fun hall => ?_
  rw [foldl_dictSet_fresh _ [] (by rwa [List.nil_append, keys_flatMap_entriesOf thr fuel games hall]),
    List.nil_append]

theorem lookup_eq_some_iff (d : List (String × Entry)) (k : String) (v : Entry)
    (hnd : (d.map (·.1)).Nodup) : lookup d k = some v ↔ (k, v) ∈ d := by
  unfold lookup
  induction d with
  | nil => simp
  | cons kv d ih =>
    obtain ⟨k', v'⟩ := kv
    rw [List.map_cons, List.nodup_cons] at hnd
    by_cases hk : k' = k
    · subst hk
      have : (k', v) ∉ d := fun h => hnd.1 (List.mem_map.2 ⟨_, h, rfl⟩)
      simp [this, eq_comm]
    · simp [hk, Ne.symm hk, ih hnd.2]

theorem lookup_perm (d d' : List (String × Entry)) (hnd : (d.map (·.1)).Nodup)
    (hp : d'.Perm d) (k : String) : lookup d' k = lookup d k := by
  have hnd' : (d'.map (·.1)).Nodup := ((hp.map _).nodup_iff).2 hnd
  apply Option.ext
  intro v
  rw [lookup_eq_some_iff _ _ _ hnd, lookup_eq_some_iff _ _ _ hnd', hp.mem_iff]

theorem keysOf_perm (games games' : List (String × PyGame)) (hp : games'.Perm games) :
    (keysOf games').Perm (keysOf games) := hp.flatMap_right _

end ValidateLemmas
end CR

namespace CR.C09
open CR CR.Py

theorem toGame_owner (g : PyGame) (k : Nat) (hk : k < g.players.length) :
    (toGame g).owners.getD k .prob = (playerOf (g.players.getD k "")).getD .prob := by
  simp [toGame, Array.getD, hk, List.getD_eq_getElem?_getD]

theorem toGame_sizes (g : PyGame) :
    (toGame g).owners.size = g.players.length ∧
    (toGame g).rewards.size = g.rewards.length ∧
    (toGame g).tl.size = min g.players.length g.tl.length := by
  simp [toGame]

theorem toGame_row (g : PyGame) (k : Nat) (hk : k < g.players.length) (hk' : k < g.tl.length) :
    (toGame g).tl.getD k [] =
      rowOf ((playerOf (g.players.getD k "")).getD .prob) (g.tl.getD k .none) := by
  have h1 : k < min g.players.length g.tl.length := by omega
  simp [toGame, Array.getD, List.length_zip, hk, hk', h1, List.getD_eq_getElem?_getD]

theorem trOf_tgt (o : Owner) (a b : PyVal) :
    (trOf o (.tuple [a, b])).tgt = ((asInt b).getD 0).toNat := by
  simp only [trOf]; split <;> rfl

theorem toGame_reward (g : PyGame) (k : Nat) (hk : k < g.rewards.length) :
    (toGame g).rewards.getD k 0 = (g.rewards[k]).toFloat := by
  simp [toGame, Array.getD, hk]

end CR.C09
