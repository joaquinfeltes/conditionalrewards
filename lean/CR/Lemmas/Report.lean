/-
For C16 (`CR/Model/Report.lean`).  `String.splitOn` with a one-character separator is `List.splitOn` on the
characters (Batteries has only a `TODO: splitOn`; proved here from its `*_of_valid` lemmas), so the lines of the
report and its file name are reasoned about on character lists.  `renderVal_prefix`: the printed text of a
well-formed value (`WFVal`) is read in one way only; the argument is that of `CR/Lemmas/Chars.lean`.
-/
import CR.Model.Report
import CR.Lemmas.Chars
import Batteries.Data.String.Lemmas

namespace CR.ReportLemmas

open CR.Report CR.Chars String

/-- One step of `String.splitOnAux` scanning for the one-character separator `c`.  `l` = the fields already cut
off, with their separators; `m` = the current field so far; `c' :: rest` = the unread text; `r` = the finished
fields in reverse.  The right-hand sides are written in the shape of the left-hand side, for the induction. -/
theorem splitOnAux_step (c c' : Char) (rest l m : List Char) (r : List String) :
    String.splitOnAux (ofList (l ++ m ++ c' :: rest)) (ofList [c]) ⟨utf8Len l⟩
        ⟨utf8Len l + utf8Len m⟩ 0 r =
      if c' = c then
        String.splitOnAux (ofList (l ++ m ++ [c'] ++ [] ++ rest)) (ofList [c])
          ⟨utf8Len (l ++ m ++ [c'])⟩ ⟨utf8Len (l ++ m ++ [c']) + utf8Len []⟩ 0 (ofList m :: r)
      else
        String.splitOnAux (ofList (l ++ (m ++ [c']) ++ rest)) (ofList [c]) ⟨utf8Len l⟩
          ⟨utf8Len l + utf8Len (m ++ [c'])⟩ 0 r := by
  have h1 : ¬ Pos.Raw.atEnd (ofList (l ++ m ++ c' :: rest)) ⟨utf8Len l + utf8Len m⟩ = true := by
    rw [← utf8Len_append, atEnd_of_valid]; exact List.cons_ne_nil _ _
  have h2 : Pos.Raw.get (ofList (l ++ m ++ c' :: rest)) ⟨utf8Len l + utf8Len m⟩ = c' := by
    rw [← utf8Len_append, get_of_valid]; rfl
  have h3 : Pos.Raw.next (ofList (l ++ m ++ c' :: rest)) ⟨utf8Len l + utf8Len m⟩ =
      ⟨utf8Len l + utf8Len m + c'.utf8Size⟩ := by
    rw [← utf8Len_append, next_of_valid]
  have h4 : Pos.Raw.get (ofList [c]) 0 = c := get_of_valid [] [c]
  have h5 : Pos.Raw.next (ofList [c]) 0 = ⟨c.utf8Size⟩ := by simpa using next_of_valid [] c []
  have h6 : Pos.Raw.atEnd (ofList [c]) ⟨c.utf8Size⟩ = true := by
    simpa using (atEnd_of_valid [c] []).2 rfl
  rw [String.splitOnAux, if_neg h1, h2, h4]
  by_cases hc : c' = c
  · subst hc
    have e : (Pos.Raw.unoffsetBy ⟨utf8Len l + utf8Len m + c'.utf8Size⟩ ⟨c'.utf8Size⟩) =
        ⟨utf8Len l + utf8Len m⟩ := by simp [Pos.Raw.unoffsetBy]
    simp only [beq_self_eq_true, if_true, h3, h5, h6, e, extract_of_valid l m (c' :: rest)]
    simp only [utf8Len_append, utf8Len_cons, utf8Len_nil, List.append_nil, Nat.add_zero, Nat.zero_add,
      Nat.add_assoc, List.append_assoc, List.cons_append, List.nil_append]
  · have e : Pos.Raw.unoffsetBy ⟨utf8Len l + utf8Len m⟩ 0 = ⟨utf8Len l + utf8Len m⟩ := by
      simp [Pos.Raw.unoffsetBy]
    simp only [beq_eq_false_iff_ne.2 hc, Bool.false_eq_true, if_false, if_neg hc, e, h3]
    simp only [utf8Len_append, utf8Len_cons, utf8Len_nil, List.append_assoc, Nat.add_assoc,
      Nat.zero_add, List.cons_append, List.nil_append]

theorem splitOnAux_char (c : Char) (rest l m : List Char) (r : List String) :
    String.splitOnAux (ofList (l ++ m ++ rest)) (ofList [c]) ⟨utf8Len l⟩
        ⟨utf8Len l + utf8Len m⟩ 0 r =
      r.reverse ++ (List.splitOnPPrepend (· == c) rest m.reverse).map ofList := by
  induction rest generalizing l m r with
  | nil =>
    have h1 : Pos.Raw.atEnd (ofList (l ++ m ++ [])) ⟨utf8Len l + utf8Len m⟩ = true := by
      rw [← utf8Len_append, atEnd_of_valid]
    rw [String.splitOnAux, if_pos h1, extract_of_valid l m []]
    simp
  | cons c' rest ih =>
    rw [splitOnAux_step, List.splitOnPPrepend_cons_eq_if]
    split
    · rw [ih, if_pos (beq_iff_eq.2 ‹c' = c›)]; simp
    · rw [ih, if_neg (mt beq_iff_eq.1 ‹¬ c' = c›)]; simp

theorem splitOn_char (s : String) (c : Char) :
    s.splitOn (String.singleton c) = (s.toList.splitOn c).map ofList := by
  have := splitOnAux_char c s.toList [] [] []
  simp only [List.nil_append, utf8Len_nil, Nat.add_zero, String.ofList_toList,
    List.reverse_nil] at this
  have hne : (String.singleton c == "") = false := by
    have : String.singleton c ≠ "" := by
      intro h
      have := congrArg String.toList h
      simp at this
    simp [this]
  rw [String.splitOn, hne]
  simp only [Bool.false_eq_true, if_false]
  show s.splitOnAux (String.singleton c) 0 0 0 [] = _
  rw [show String.singleton c = ofList [c] by simp]
  exact this

theorem splitOn_slash (s : String) : s.splitOn "/" = (s.toList.splitOn '/').map ofList :=
  splitOn_char s '/'

theorem splitOn_dot (s : String) : s.splitOn "." = (s.toList.splitOn '.').map ofList :=
  splitOn_char s '.'

theorem splitOn_newline (s : String) : s.splitOn "\n" = (s.toList.splitOn '\n').map ofList :=
  splitOn_char s '\n'

theorem labels_length : labels.length = 14 := rfl

/-- Evaluating `String.toList`/`String.length` on a literal is quadratic in its length (UTF-8 decoding by byte
position); `String.toList_ofList`, read against the expansion `String.ofList [c₁, …]` of each literal, gives the
characters at once. -/
theorem labels_chars : ∀ l ∈ labels, l.length = 26 ∧ '\n' ∉ l.toList := by
  simp only [labels, List.forall_mem_cons, List.not_mem_nil, false_imp_iff, implies_true,
    and_true, ← String.length_toList]
  repeat rw [String.toList_ofList]
  decide +kernel

theorem fieldTexts_length (name : String) (e : Entry) : (fieldTexts name e).length = 14 := rfl

theorem blockLines_eq (name : String) (e : Entry) :
    blockLines name e = separator :: List.zipWith (· ++ ·) labels (fieldTexts name e) := by
  rfl

theorem blockLines_length (name : String) (e : Entry) : (blockLines name e).length = 15 := rfl

theorem fieldOfLine_append (l t : String) (h : l.length = 26) : fieldOfLine (l ++ t) = t := by
  unfold fieldOfLine
  apply String.toList_inj.1
  show ((l ++ t).drop 26).copy.toList = _
  rw [String.toList_copy_drop, String.toList_append]
  rw [← String.length_toList] at h
  simp [h]

theorem readBlocks_nil : readBlocks [] = [] := by
  rw [readBlocks]

theorem readBlocks_cons (sep : String) (rest : List String) :
    readBlocks (sep :: rest) = (rest.take 14).map fieldOfLine :: readBlocks (rest.drop 14) := by
  rw [readBlocks]

theorem map_fieldOfLine_zipWith :
    ∀ (ls ts : List String), (∀ l ∈ ls, l.length = 26) → ls.length = ts.length →
      (List.zipWith (· ++ ·) ls ts).map fieldOfLine = ts
  | [], [], _, _ => rfl
  | [], _ :: _, _, h => by simp at h
  | _ :: _, [], _, h => by simp at h
  | l :: ls, t :: ts, hw, h => by
    simp only [List.zipWith_cons_cons, List.map_cons]
    rw [fieldOfLine_append l t (hw l (by simp)),
      map_fieldOfLine_zipWith ls ts (fun x hx => hw x (by simp [hx])) (by simpa using h)]

theorem readBlocks_block (name : String) (e : Entry) (rest : List String) :
    readBlocks (blockLines name e ++ rest) = fieldTexts name e :: readBlocks rest := by
  rw [blockLines_eq, List.cons_append, readBlocks_cons]
  have hlen : (List.zipWith (· ++ ·) labels (fieldTexts name e)).length = 14 := rfl
  rw [List.take_append_of_le_length (by omega), List.drop_append_of_le_length (by omega)]
  rw [List.take_of_length_le (by omega), List.drop_of_length_le (by omega)]
  rw [map_fieldOfLine_zipWith labels (fieldTexts name e) (fun l hl => (labels_chars l hl).1) rfl]
  simp

theorem flatMap_append_singleton_eq_intercalate {α} (x : α) :
    ∀ (L : List (List α)), L.flatMap (· ++ [x]) = [x].intercalate (L ++ [[]])
  | [] => by simp [List.intercalate]
  | [l] => by simp [List.intercalate]
  | l :: l' :: L => by
    have ih := flatMap_append_singleton_eq_intercalate x (l' :: L)
    rw [List.flatMap_cons, ih]
    simp [List.intercalate_cons_cons]

theorem splitOn_join_lines (ls : List String) (h : ∀ l ∈ ls, '\n' ∉ l.toList) :
    (String.join (ls.map (· ++ "\n"))).splitOn "\n" = ls ++ [""] := by
  rw [splitOn_newline, String.toList_join]
  have : (ls.map (· ++ "\n")).flatMap String.toList = (ls.map String.toList).flatMap (· ++ ['\n']) := by
    simp [List.flatMap_map, String.toList_append]
  rw [this, flatMap_append_singleton_eq_intercalate, List.splitOn_intercalate]
  · simp
  · intro l hl
    simp only [List.mem_append, List.mem_map, List.mem_singleton] at hl
    rcases hl with ⟨s, hs, rfl⟩ | rfl
    · exact h s hs
    · simp
  · simp

theorem separator_no_newline : '\n' ∉ separator.toList := by
  have : ∀ n, '\n' ∉ (String.ofList (List.replicate n '=')).toList := by
    intro n h
    rw [String.toList_ofList] at h
    exact absurd (List.eq_of_mem_replicate h) (by decide)
  exact this 160

theorem blockLines_no_newline (name : String) (e : Entry)
    (h : ∀ t ∈ fieldTexts name e, '\n' ∉ t.toList) :
    ∀ l ∈ blockLines name e, '\n' ∉ l.toList := by
  intro l hl
  simp only [blockLines, List.mem_cons, List.mem_map] at hl
  rcases hl with rfl | ⟨⟨a, b⟩, hab, rfl⟩
  · exact separator_no_newline
  · have := List.of_mem_zip hab
    simp only [String.toList_append, List.mem_append, not_or]
    exact ⟨(labels_chars a this.1).2, h b this.2⟩

theorem outName_eq (path : String) :
    outName path =
      "outputs/" ++ ofList (((path.toList.splitOn '/').getLast!).splitOn '.').head! ++ ".txt" := by
  -- `ofList` commutes with `getLast!` and `head!`, on the empty list too: `ofList default = default`
  have h1 : ∀ L : List (List Char), (L.map ofList).getLast! = ofList L.getLast! := by
    intro L
    rw [List.getLast!_eq_getLast?_getD, List.getLast!_eq_getLast?_getD, List.getLast?_map]
    cases L.getLast? <;> rfl
  have h2 : ∀ L : List (List Char), (L.map ofList).head! = ofList L.head! := by
    intro L; cases L <;> rfl
  unfold outName
  simp only [splitOn_slash, splitOn_dot]
  rw [h1, String.toList_ofList, h2]

theorem outName_of_last (path stem : String) (h2 : '.' ∉ stem.toList)
    (hl : (path.toList.splitOn '/').getLast! = stem.toList ++ ['.', 'p', 'y']) :
    outName path = "outputs/" ++ stem ++ ".txt" := by
  have : stem.toList ++ ['.', 'p', 'y'] = stem.toList ++ '.' :: ['p', 'y'] := rfl
  rw [outName_eq, hl, this, List.splitOn_append_cons_self, List.splitOn_eq_singleton h2]
  show "outputs/" ++ ofList stem.toList ++ ".txt" = _
  rw [String.ofList_toList]

theorem not_slash_py {l : List Char} (h : '/' ∉ l) : '/' ∉ l ++ ['.', 'p', 'y'] := by
  simp only [List.mem_append, not_or]; exact ⟨h, by decide⟩

/-- the string part: no quote, backslash, comma, bracket, newline; printable ASCII -/
def StrOK (s : String) : Prop :=
  ∀ c ∈ s.toList, c ≠ '\'' ∧ c ≠ '\\' ∧ c ≠ ',' ∧ c ≠ '[' ∧ c ≠ ']' ∧ c ≠ '\n' ∧
    32 ≤ c.toNat ∧ c.toNat < 127

instance : DecidablePred StrOK := fun s => by unfold StrOK; infer_instance

/-- characters that may occur in an atom (`None`, `True`, `False`, ints, float texts) -/
def AtomCh (c : Char) : Prop := c ≠ ',' ∧ c ≠ '[' ∧ c ≠ ']' ∧ c ≠ '\'' ∧ c ≠ ' '

instance : DecidablePred AtomCh := fun c => by unfold AtomCh; infer_instance

/-- float texts: non-empty, no separators, and not the text of another atom -/
def FloatOK (r : String) : Prop :=
  r.toList ≠ [] ∧ (∀ c ∈ r.toList, AtomCh c) ∧ r ≠ "None" ∧ r ≠ "True" ∧ r ≠ "False" ∧
    ∀ i : Int, r ≠ toString i

mutual
def WFVal : RVal → Prop
  | .none => True
  | .bool _ => True
  | .int _ => True
  | .float r => FloatOK r
  | .str s => StrOK s
  | .list xs => WFList xs
def WFList : List RVal → Prop
  | [] => True
  | x :: xs => WFVal x ∧ WFList xs
end

def rv (a : RVal) : List Char := (renderVal a).toList
def rl (xs : List RVal) : List Char := (renderList xs).toList

theorem rv_none : rv .none = ['N', 'o', 'n', 'e'] := String.toList_ofList
theorem rv_bool (b : Bool) :
    rv (.bool b) = if b then ['T', 'r', 'u', 'e'] else ['F', 'a', 'l', 's', 'e'] := by
  cases b <;> exact String.toList_ofList
theorem rv_int (i : Int) : rv (.int i) = (toString i).toList := by simp [rv, renderVal]
theorem rv_float (r : String) : rv (.float r) = r.toList := by simp [rv, renderVal]
theorem rv_str (s : String) : rv (.str s) = '\'' :: (s.toList ++ ['\'']) := by
  simp [rv, renderVal, CR.Report.reprStr]
theorem rv_list (xs : List RVal) : rv (.list xs) = '[' :: (rl xs ++ [']']) := by
  simp [rv, rl, renderVal]
theorem rl_nil : rl [] = [] := by simp [rl, renderList]
theorem rl_one (x : RVal) : rl [x] = rv x := by simp [rl, rv, renderList]
theorem rl_cons2 (x y : RVal) (r : List RVal) :
    rl (x :: y :: r) = rv x ++ ',' :: ' ' :: rl (y :: r) := by
  simp [rl, rv, renderList]

/-- the characters that can follow a value -/
def Delim (c : Char) : Prop := c = ',' ∨ c = ']'

instance : DecidablePred Delim := fun c => by unfold Delim; infer_instance

def kind : RVal → Nat
  | .str _ => 1
  | .list _ => 2
  | _ => 0

theorem str_of_kind : ∀ {b : RVal}, kind b = 1 → ∃ s, b = .str s
  | .str s, _ => ⟨s, rfl⟩

theorem list_of_kind : ∀ {b : RVal}, kind b = 2 → ∃ ys, b = .list ys
  | .list ys, _ => ⟨ys, rfl⟩

/-- the kind of value a text beginning with `c` can be -/
def cls (c : Char) : Nat := if c = '\'' then 1 else if c = '[' then 2 else 0

theorem atomCh_of_digit {c : Char} (h : c.isDigit = true ∨ c = '-') : AtomCh c :=
  ⟨digit_ne h rfl, digit_ne h rfl, digit_ne h rfl, digit_ne h rfl, digit_ne h rfl⟩

theorem atom_chars (a : RVal) (hk : kind a = 0) (hw : WFVal a) :
    rv a ≠ [] ∧ ∀ c ∈ rv a, AtomCh c := by
  cases a with
  | none => rw [rv_none]; decide
  | bool b => rw [rv_bool]; cases b <;> decide
  | int i =>
    rw [rv_int]
    exact ⟨int_toString_ne_nil i, fun c hc => atomCh_of_digit (int_toString_chars i c hc)⟩
  | float r => rw [rv_float]; exact ⟨hw.1, hw.2.1⟩
  | str s => cases hk
  | list xs => cases hk

theorem atom_noDelim (a : RVal) (hk : kind a = 0) (hw : WFVal a) : ∀ c ∈ rv a, ¬ Delim c :=
  fun c hc => let h := (atom_chars a hk hw).2 c hc; not_or.2 ⟨h.1, h.2.2.1⟩

theorem rv_head (a : RVal) (hw : WFVal a) : Head cls Delim (kind a) (rv a) := by
  by_cases hk : kind a = 0
  · obtain ⟨h1, h2⟩ := atom_chars a hk hw
    obtain ⟨c, r, hcr⟩ := List.exists_cons_of_ne_nil h1
    have hc := h2 c (by simp [hcr])
    refine ⟨c, r, hcr, ?_, atom_noDelim a hk hw c (by simp [hcr])⟩
    rw [hk, cls, if_neg hc.2.2.2.1, if_neg hc.2.1]
  · cases a with
    | str s => exact ⟨_, _, rv_str s, rfl, by decide⟩
    | list xs => exact ⟨_, _, rv_list xs, rfl, by decide⟩
    | _ => exact absurd rfl hk

theorem kind_eq (a b : RVal) (ha : WFVal a) (hb : WFVal b) (s t : List Char)
    (h : rv a ++ s = rv b ++ t) : kind a = kind b :=
  (rv_head a ha).kind_eq (rv_head b hb) h

theorem atom_inj (a b : RVal) (ha : kind a = 0) (hb : kind b = 0)
    (wa : WFVal a) (wb : WFVal b) (h : rv a = rv b) : a = b := by
  -- `hs`: for a float text against another atom (`FloatOK`); `h`, as characters: for the rest
  have hs : renderVal a = renderVal b := String.toList_inj.1 h
  cases a <;> cases ha <;> cases b <;> cases hb
  all_goals simp only [rv_none, rv_bool, rv_int, rv_float] at h
  -- the 16 pairs, `a` then `b` each running through none, bool, int, float: equal constructors by injectivity of
  -- the text; an integer text does not begin with `N`, `T`, `F`; a float text is none of the others (`FloatOK`)
  · rfl
  · rename_i q; cases q <;> exact absurd h (by decide)
  · exact absurd h.symm (int_toString_ne_cons _ 'N' _ rfl)
  · exact absurd hs.symm wb.2.2.1
  · rename_i q; cases q <;> exact absurd h (by decide)
  · rename_i q q'; cases q <;> cases q' <;> first | rfl | exact absurd h (by decide)
  · rename_i q i; cases q
    · exact absurd h.symm (int_toString_ne_cons _ 'F' _ rfl)
    · exact absurd h.symm (int_toString_ne_cons _ 'T' _ rfl)
  · rename_i q r; cases q
    · exact absurd hs.symm wb.2.2.2.2.1
    · exact absurd hs.symm wb.2.2.2.1
  · exact absurd h (int_toString_ne_cons _ 'N' _ rfl)
  · rename_i i q; cases q
    · exact absurd h (int_toString_ne_cons _ 'F' _ rfl)
    · exact absurd h (int_toString_ne_cons _ 'T' _ rfl)
  · rw [int_toString_inj hs]
  · rename_i i r; exact absurd hs.symm (wb.2.2.2.2.2 i)
  · exact absurd hs wa.2.2.1
  · rename_i r q; cases q
    · exact absurd hs wa.2.2.2.2.1
    · exact absurd hs wa.2.2.2.1
  · rename_i r i; exact absurd hs (wa.2.2.2.2.2 i)
  · rw [String.toList_inj.1 h]

theorem prefixFree_of_flat (a b : RVal) (hab : kind a ≤ 1) (wa : WFVal a) (wb : WFVal b) :
    PrefixFree rv (Tail Delim) a b := by
  intro s t hs ht h
  have hk := kind_eq a b wa wb s t h
  rcases (by omega : kind a = 0 ∨ kind a = 1) with h0 | h1
  · have := split_unique (atom_noDelim a h0 wa) (atom_noDelim b (hk ▸ h0) wb) hs ht h
    exact ⟨atom_inj a b h0 (hk ▸ h0) wa wb this.1, this.2⟩
  · obtain ⟨s1, rfl⟩ := str_of_kind h1
    obtain ⟨s2, rfl⟩ := str_of_kind (hk.symm.trans h1)
    rw [rv_str, rv_str] at h
    have := quote_unique (fun hc => (wa _ hc).1 rfl) (fun hc => (wb _ hc).1 rfl) h
    exact ⟨by rw [String.toList_inj.1 this.1], this.2⟩

theorem wfList_iff (xs : List RVal) : WFList xs ↔ ∀ x ∈ xs, WFVal x := by
  induction xs with
  | nil => simp [WFList]
  | cons x xs ih => simp [WFList, ih]

theorem rl_eq_sepBy : ∀ xs, rl xs = sepBy rv [',', ' '] xs
  | [] => rl_nil
  | [x] => rl_one x
  | x :: y :: r => by rw [rl_cons2, sepBy, rl_eq_sepBy (y :: r)]; rfl

theorem seq_prefix (xs ys : List RVal) (wx : ∀ x ∈ xs, WFVal x) (wy : ∀ y ∈ ys, WFVal y)
    (he : ∀ x ∈ xs, ∀ y ∈ ys, PrefixFree rv (Tail Delim) x y)
    (s t : List Char) (h : rl xs ++ ']' :: s = rl ys ++ ']' :: t) : xs = ys ∧ s = t := by
  rw [rl_eq_sepBy, rl_eq_sepBy] at h
  exact sepBy_prefix_close rv _ (Tail Delim) ']' (fun _ => tail_cons _ (.inr rfl))
    (fun _ => tail_cons _ (.inl rfl)) xs ys he
    (fun x hx s z => ⟨((rv_head x (hx.elim (wx x) (wy x))).ne_cons (.inr rfl) z s).symm,
      fun e => absurd (List.cons.inj e).1 (by decide)⟩)
    s t h

theorem rval_induction {P : RVal → Prop} (flat : ∀ a, kind a ≤ 1 → P a)
    (list : ∀ xs, (∀ x ∈ xs, P x) → P (.list xs)) : ∀ a, P a :=
  RVal.rec (motive_1 := P) (motive_2 := fun xs => ∀ x ∈ xs, P x)
    (flat _ (Nat.zero_le 1)) (fun _ => flat _ (Nat.zero_le 1)) (fun _ => flat _ (Nat.zero_le 1))
    (fun _ => flat _ (Nat.zero_le 1)) (fun _ => flat _ (Nat.le_refl 1)) list
    nofun (fun _ _ hx hxs => List.forall_mem_cons.2 ⟨hx, hxs⟩)

theorem renderVal_prefix (a : RVal) : WFVal a → ∀ b, WFVal b → PrefixFree rv (Tail Delim) a b := by
  induction a using rval_induction with
  | flat a hk => exact fun wa b wb => prefixFree_of_flat a b hk wa wb
  | list xs ih =>
    intro wa b wb s t _ _ h
    obtain ⟨ys, rfl⟩ := list_of_kind (kind_eq _ b wa wb s t h).symm
    simp only [rv_list, List.cons_append, List.cons.injEq, true_and, List.append_assoc,
      List.nil_append] at h
    have wx := (wfList_iff xs).1 wa
    have wy := (wfList_iff ys).1 wb
    obtain ⟨rfl, rfl⟩ := seq_prefix xs ys wx wy
      (fun x hx y hy => ih x hx (wx x hx) y (wy y hy)) s t h
    exact ⟨rfl, rfl⟩

theorem renderList_prefix : (xs : List RVal) → WFList xs → (ys : List RVal) → WFList ys →
    ∀ s t : List Char, rl xs ++ ']' :: s = rl ys ++ ']' :: t → xs = ys ∧ s = t :=
  fun xs wx ys wy =>
    have wx := (wfList_iff xs).1 wx
    have wy := (wfList_iff ys).1 wy
    seq_prefix xs ys wx wy fun x hx y hy => renderVal_prefix x (wx x hx) y (wy y hy)

/-- a decidable sufficient condition for `FloatOK`: some character is neither a digit nor `-`
(Python's float `repr` always contains `.`, `e`, or is `inf`/`-inf`/`nan`) -/
def FloatMark (r : String) : Prop :=
  r.toList ≠ [] ∧ (∀ c ∈ r.toList, AtomCh c) ∧ r ≠ "None" ∧ r ≠ "True" ∧ r ≠ "False" ∧
    ∃ c ∈ r.toList, ¬ (c.isDigit = true ∨ c = '-')

instance : DecidablePred FloatMark := fun r => by unfold FloatMark; infer_instance

theorem floatOK_of_floatMark {r : String} (h : FloatMark r) : FloatOK r := by
  obtain ⟨h1, h2, h3, h4, h5, c, hc, hn⟩ := h
  refine ⟨h1, h2, h3, h4, h5, ?_⟩
  rintro i rfl
  exact hn (int_toString_chars i c hc)

theorem boolText_inj {q q' : Bool}
    (h : (if q then "True" else "False" : String) = (if q' then "True" else "False")) : q = q' := by
  revert h; cases q <;> cases q' <;> decide

end CR.ReportLemmas
