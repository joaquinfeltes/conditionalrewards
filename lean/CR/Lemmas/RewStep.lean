/-
The total-reward value iteration of `CR/Model/Solver.lean` (`stepRew`, `sweepRew`, `viRew`) over a
linearly ordered field, without reference to `solve`.

`stepRew` has a closed form for each kind of row (empty, probabilistic, Player 1, Player 2; the
player cases through the selection folds `selMax` / `selMin`: "last maximal / last minimal
successor").  Its first component is the Bellman operator `Brew` applied to `er`, so on `er` a sweep
is a Gauss–Seidel sweep of `Brew` (`sweepRewFrom_er_inv`); `Brew` is monotone and commutes with
shifts (`Brew_le_add`; the row hypotheses are `VI.RowNonneg` and `RowDist`, which is `NodesWF` at
one state).  The three vectors are treated at once through `Comp`.  What is known after a sweep
comes from the moment a state is visited (`sweepRew_expose`): the values written there are
`stepRew` of an intermediate state within the reported change of the result.  `section Diag`: the
two diagnostic components (`ermr`, `pmr`) of the step are non-expansive where the `er` vectors
agree.  Last, `C06.Absorbing` (probabilistic zero-reward self-loop) with what the step does there.
-/
import CR.Lemmas.VI

set_option linter.unusedSectionVars false

namespace CR.Rew

open CR CR.VI

variable {K : Type} [Field K] [LinearOrder K] [IsStrictOrderedRing K]

/-- the reward Bellman operator of the game whose transition lists are `nodes`:
`0` for a state without transitions; otherwise the state's reward plus the weighted sum
(probabilistic state), the maximum clamped below by `0` (Player 1), the minimum (Player 2) of the
successor values -/
def Brew (owners : Array Owner) (rewards : Array K) (nodes : Array (List (Tr K))) (x : Array K)
    (s : Nat) : K :=
  match nodes.getD s [] with
  | [] => 0
  | t0 :: rest =>
    rewards.getD s 0 +
      match owners.getD s .prob with
      | .prob => ((t0 :: rest).map (fun t => x.getD t.tgt 0 * t.p)).sum
      | .p1 => (t0 :: rest).foldl (fun m t => max m (x.getD t.tgt 0)) 0
      | .p2 => rest.foldl (fun m t => min m (x.getD t.tgt 0)) (x.getD t0.tgt 0)

/-- every row of a probabilistic state is empty or a probability distribution -/
def NodesWF (owners : Array Owner) (nodes : Array (List (Tr K))) : Prop :=
  ∀ s < owners.size, owners.getD s .prob = .prob →
    nodes.getD s [] = [] ∨
      ((∀ t ∈ nodes.getD s [], 0 ≤ t.p) ∧ ((nodes.getD s []).map (·.p)).sum = 1)

/-- the row of `s`, if `s` is probabilistic, is empty or a distribution: what `NodesWF` says of
one state (`hwf s hs : RowDist owners nodes s`) -/
def RowDist (owners : Array Owner) (nodes : Array (List (Tr K))) (s : Nat) : Prop :=
  owners.getD s .prob = .prob →
    nodes.getD s [] = [] ∨ ((∀ t ∈ nodes.getD s [], 0 ≤ t.p) ∧ psum (nodes.getD s []) = 1)

theorem RowDist.nonneg {owners : Array Owner} {nodes : Array (List (Tr K))} {s : Nat}
    (h : RowDist owners nodes s) : RowNonneg owners nodes s := fun ho t ht =>
  (h ho).elim (fun h0 => absurd (h0 ▸ ht) List.not_mem_nil) (·.1 t ht)

theorem RowDist.sumOne {owners : Array Owner} {nodes : Array (List (Tr K))} {s : Nat}
    (h : RowDist owners nodes s) (ho : owners.getD s .prob = .prob) (hne : nodes.getD s [] ≠ []) :
    psum (nodes.getD s []) = 1 :=
  (h ho).elim (absurd · hne) (·.2)

theorem NodesWF.rowNonneg {owners : Array Owner} {nodes : Array (List (Tr K))}
    (h : NodesWF owners nodes) : ∀ s < owners.size, RowNonneg owners nodes s :=
  fun s hs => RowDist.nonneg (h s hs)

/-- `t` is the LAST transition of `row` whose successor value is maximal -/
def IsLastMax (x : Array K) (row : List (Tr K)) (t : Tr K) : Prop :=
  ∃ pre post, row = pre ++ t :: post ∧ (∀ u ∈ pre, x.getD u.tgt 0 ≤ x.getD t.tgt 0) ∧
    ∀ u ∈ post, x.getD u.tgt 0 < x.getD t.tgt 0

/-- `t` is the LAST transition of `row` whose successor value is minimal -/
def IsLastMin (x : Array K) (row : List (Tr K)) (t : Tr K) : Prop :=
  ∃ pre post, row = pre ++ t :: post ∧ (∀ u ∈ pre, x.getD t.tgt 0 ≤ x.getD u.tgt 0) ∧
    ∀ u ∈ post, x.getD t.tgt 0 < x.getD u.tgt 0

/-- the Player-1 fold of `stepRew`: running maximum with `≥`, remembering the transition -/
def selMax (x : Array K) (row : List (Tr K)) (acc : K × Option (Tr K)) : K × Option (Tr K) :=
  row.foldl (fun (acc : K × Option (Tr K)) t =>
    let y := x.getD t.tgt 0
    if y ≥ acc.1 then (y, some t) else acc) acc

/-- the Player-2 fold of `stepRew`: running minimum with `≤`, remembering the transition -/
def selMin (x : Array K) (row : List (Tr K)) (acc : K × Tr K) : K × Tr K :=
  row.foldl (fun (acc : K × Tr K) t =>
    let y := x.getD t.tgt 0
    if y ≤ acc.1 then (y, t) else acc) acc

@[simp] theorem selMax_nil (x : Array K) (acc : K × Option (Tr K)) : selMax x [] acc = acc := rfl
@[simp] theorem selMin_nil (x : Array K) (acc : K × Tr K) : selMin x [] acc = acc := rfl

/-! Both folds are one fold, `selLast`: a running maximum with `≤` that remembers `f t` for the last
maximal `t`; `selMax` is `selLast some`, `selMin` is `selLast id` in the order dual `Kᵒᵈ`, where
`≤`, `max`, `IsLastMax` are `≥`, `min`, `IsLastMin` by definition. -/

section SelLast
omit [IsStrictOrderedRing K]

theorem IsLastMax.mem {x : Array K} {row : List (Tr K)} {t : Tr K} (h : IsLastMax x row t) :
    t ∈ row := by
  obtain ⟨pre, post, rfl, _, _⟩ := h; simp

theorem IsLastMax.ge {x : Array K} {row : List (Tr K)} {t : Tr K} (h : IsLastMax x row t) :
    ∀ u ∈ row, x.getD u.tgt 0 ≤ x.getD t.tgt 0 := by
  obtain ⟨pre, post, rfl, h1, h2⟩ := h
  intro u hu
  simp only [List.mem_append, List.mem_cons] at hu
  rcases hu with hu | rfl | hu
  · exact h1 u hu
  · exact le_rfl
  · exact le_of_lt (h2 u hu)

theorem IsLastMax.cons {x : Array K} {row : List (Tr K)} {t : Tr K} (h : IsLastMax x row t)
    (u : Tr K) (hu : x.getD u.tgt 0 ≤ x.getD t.tgt 0) : IsLastMax x (u :: row) t := by
  obtain ⟨pre, post, rfl, h1, h2⟩ := h
  exact ⟨u :: pre, post, rfl, List.forall_mem_cons.mpr ⟨hu, h1⟩, h2⟩

@[simp] theorem selMax_cons (x : Array K) (t : Tr K) (row : List (Tr K)) (acc : K × Option (Tr K)) :
    selMax x (t :: row) acc =
      selMax x row (if acc.1 ≤ x.getD t.tgt 0 then (x.getD t.tgt 0, some t) else acc) := rfl

@[simp] theorem selMin_cons (x : Array K) (t : Tr K) (row : List (Tr K)) (acc : K × Tr K) :
    selMin x (t :: row) acc =
      selMin x row (if x.getD t.tgt 0 ≤ acc.1 then (x.getD t.tgt 0, t) else acc) := rfl

section
variable {α : Type} (f : Tr K → α)

def selLast (x : Array K) (row : List (Tr K)) (acc : K × α) : K × α :=
  row.foldl (fun (acc : K × α) t =>
    if acc.1 ≤ x.getD t.tgt 0 then (x.getD t.tgt 0, f t) else acc) acc

theorem selLast_cons (x : Array K) (t : Tr K) (row : List (Tr K)) (acc : K × α) :
    selLast f x (t :: row) acc =
      selLast f x row (if acc.1 ≤ x.getD t.tgt 0 then (x.getD t.tgt 0, f t) else acc) := rfl

theorem selLast_congr (x y : Array K) (row : List (Tr K))
    (h : ∀ t ∈ row, x.getD t.tgt 0 = y.getD t.tgt 0) (acc : K × α) :
    selLast f x row acc = selLast f y row acc := by
  unfold selLast
  exact List.foldl_rel (r := (· = ·)) rfl fun t ht a b hab => by rw [hab, h t ht]

theorem selLast_fst (x : Array K) (row : List (Tr K)) (acc : K × α) :
    (selLast f x row acc).1 = maxOver x row acc.1 := by
  induction row generalizing acc with
  | nil => rfl
  | cons t row ih =>
    rw [selLast_cons, ih, maxOver_cons]
    split_ifs with h
    · rw [max_eq_right h]
    · rw [max_eq_left (le_of_lt (not_le.mp h))]

theorem selLast_snd (x : Array K) (row : List (Tr K)) (acc : K × α) :
    ((selLast f x row acc).2 = acc.2 ∧ (selLast f x row acc).1 = acc.1 ∧
        ∀ u ∈ row, x.getD u.tgt 0 < acc.1) ∨
      ∃ t, (selLast f x row acc).2 = f t ∧ (selLast f x row acc).1 = x.getD t.tgt 0 ∧
        acc.1 ≤ x.getD t.tgt 0 ∧ IsLastMax x row t := by
  induction row generalizing acc with
  | nil => exact .inl ⟨rfl, rfl, fun _ h => absurd h List.not_mem_nil⟩
  | cons t row ih =>
    rw [selLast_cons]
    by_cases h : acc.1 ≤ x.getD t.tgt 0
    · rw [if_pos h]
      right
      rcases ih (x.getD t.tgt 0, f t) with ⟨h1, h2, h3⟩ | ⟨u, h1, h2, h3, h4⟩
      · exact ⟨t, h1, h2, h, [], row, rfl, fun _ hu => absurd hu List.not_mem_nil, h3⟩
      · exact ⟨u, h1, h2, le_trans h h3, h4.cons t h3⟩
    · rw [if_neg h]
      have h' := not_le.mp h
      rcases ih acc with ⟨h1, h2, h3⟩ | ⟨u, h1, h2, h3, h4⟩
      · exact .inl ⟨h1, h2, List.forall_mem_cons.mpr ⟨h', h3⟩⟩
      · exact .inr ⟨u, h1, h2, h3, h4.cons t (le_trans (le_of_lt h') h3)⟩

end

theorem IsLastMin.mem {x : Array K} {row : List (Tr K)} {t : Tr K} (h : IsLastMin x row t) :
    t ∈ row :=
  IsLastMax.mem (K := Kᵒᵈ) h

theorem IsLastMin.le {x : Array K} {row : List (Tr K)} {t : Tr K} (h : IsLastMin x row t) :
    ∀ u ∈ row, x.getD t.tgt 0 ≤ x.getD u.tgt 0 :=
  IsLastMax.ge (K := Kᵒᵈ) h

theorem selMax_congr (x y : Array K) (row : List (Tr K))
    (h : ∀ t ∈ row, x.getD t.tgt 0 = y.getD t.tgt 0) (acc : K × Option (Tr K)) :
    selMax x row acc = selMax y row acc :=
  selLast_congr some x y row h acc

theorem selMin_congr (x y : Array K) (row : List (Tr K))
    (h : ∀ t ∈ row, x.getD t.tgt 0 = y.getD t.tgt 0) (acc : K × Tr K) :
    selMin x row acc = selMin y row acc :=
  selLast_congr (K := Kᵒᵈ) id x y row h acc

theorem selMax_fst (x : Array K) (row : List (Tr K)) (acc : K × Option (Tr K)) :
    (selMax x row acc).1 = maxOver x row acc.1 :=
  selLast_fst some x row acc

theorem selMin_fst (x : Array K) (row : List (Tr K)) (acc : K × Tr K) :
    (selMin x row acc).1 = minOver x row acc.1 :=
  selLast_fst (K := Kᵒᵈ) id x row acc

theorem selMax_snd (x : Array K) (row : List (Tr K)) (acc : K × Option (Tr K)) :
    ((selMax x row acc).2 = acc.2 ∧ (selMax x row acc).1 = acc.1 ∧
        ∀ u ∈ row, x.getD u.tgt 0 < acc.1) ∨
      ∃ t, (selMax x row acc).2 = some t ∧ (selMax x row acc).1 = x.getD t.tgt 0 ∧
        acc.1 ≤ x.getD t.tgt 0 ∧ IsLastMax x row t :=
  selLast_snd some x row acc

theorem selMin_snd (x : Array K) (row : List (Tr K)) (acc : K × Tr K) :
    ((selMin x row acc).2 = acc.2 ∧ (selMin x row acc).1 = acc.1 ∧
        ∀ u ∈ row, acc.1 < x.getD u.tgt 0) ∨
      ∃ t, (selMin x row acc).2 = t ∧ (selMin x row acc).1 = x.getD t.tgt 0 ∧
        x.getD t.tgt 0 ≤ acc.1 ∧ IsLastMin x row t :=
  selLast_snd (K := Kᵒᵈ) id x row acc

/-- the fold as `stepRew` starts it, at the first transition itself, so the "nothing selected"
branch of `selMin_snd` cannot occur -/
theorem selMin_start (x : Array K) (t0 : Tr K) (rest : List (Tr K)) :
    (selMin x (t0 :: rest) (x.getD t0.tgt 0, t0)).1 =
        x.getD (selMin x (t0 :: rest) (x.getD t0.tgt 0, t0)).2.tgt 0 ∧
      IsLastMin x (t0 :: rest) (selMin x (t0 :: rest) (x.getD t0.tgt 0, t0)).2 := by
  rcases selMin_snd x (t0 :: rest) (x.getD t0.tgt 0, t0) with ⟨_, _, h3⟩ | ⟨t, rfl, h2, _, h4⟩
  · exact absurd (h3 t0 List.mem_cons_self) (lt_irrefl _)
  · exact ⟨h2, h4⟩

end SelLast

section Step
variable {rnd : K → Int} {owners : Array Owner} {rewards : Array K}
  {nodes : Array (List (Tr K))} {reach : Array K}

theorem stepRew_nil {v : RewVecs K} {s : Nat} (h : nodes.getD s [] = []) :
    stepRew rnd owners rewards nodes reach v s = .ok (0, 0, 0) := by
  unfold stepRew
  simp [h]

theorem stepRew_prob {v : RewVecs K} {s : Nat} (hne : nodes.getD s [] ≠ [])
    (ho : owners.getD s .prob = .prob) :
    stepRew rnd owners rewards nodes reach v s =
      .ok (rewards.getD s 0 + sumOver v.er (nodes.getD s []),
           rewards.getD s 0 + sumOver v.ermr (nodes.getD s []),
           sumOver v.pmr (nodes.getD s [])) := by
  unfold stepRew
  simp only [List.isEmpty_eq_false_iff.mpr hne, ho, Bool.false_eq_true, if_false]
  rw [foldl_sum_eq, foldl_sum_eq, foldl_sum_eq, zero_add]

theorem stepRew_p1 {v : RewVecs K} {s : Nat} (hne : nodes.getD s [] ≠ [])
    (ho : owners.getD s .prob = .p1) :
    stepRew rnd owners rewards nodes reach v s =
      match (selMax v.er (nodes.getD s []) (0, none)).2 with
      | none => .error .unbound
      | some t => .ok ((selMax v.er (nodes.getD s []) (0, none)).1 + rewards.getD s 0,
          v.ermr.getD t.tgt 0 + rewards.getD s 0, v.pmr.getD t.tgt 0) := by
  unfold stepRew
  simp only [List.isEmpty_eq_false_iff.mpr hne, ho, Bool.false_eq_true, if_false]
  rfl

theorem stepRew_p2 {v : RewVecs K} {s : Nat} {t0 : Tr K} {rest : List (Tr K)}
    (hrow : nodes.getD s [] = t0 :: rest) (ho : owners.getD s .prob = .p2) :
    stepRew rnd owners rewards nodes reach v s =
      .ok ((selMin v.er (t0 :: rest) (v.er.getD t0.tgt 0, t0)).1 + rewards.getD s 0,
        p2RewMinReach (rewards.getD s 0) v.ermr (t0 :: rest)
          (worstStratFrom rnd (rnd 1) reach (t0 :: rest)),
        v.pmr.getD (selMin v.er (t0 :: rest) (v.er.getD t0.tgt 0, t0)).2.tgt 0) := by
  unfold stepRew
  simp only [hrow, ho, List.isEmpty_cons, Bool.false_eq_true, if_false]
  rfl

theorem p2RewMinReach_eq (r : K) (ermr : Array K) (row : List (Tr K)) (strat : List String) :
    p2RewMinReach r ermr row strat =
      match row.filter (fun t => strat.contains t.act) with
      | [] => 0
      | t0 :: rest => minOver ermr (t0 :: rest) (ermr.getD t0.tgt 0) + r := by
  unfold p2RewMinReach
  split
  · rename_i h; rw [h]
  · rename_i t0 rest h; rw [h]; simp only []; rw [foldl_min_eq]

theorem p2RewMinReach_congr (r : K) (x y : Array K) (row : List (Tr K)) (strat : List String)
    (h : ∀ t ∈ row, x.getD t.tgt 0 = y.getD t.tgt 0) :
    p2RewMinReach r x row strat = p2RewMinReach r y row strat := by
  rw [p2RewMinReach_eq, p2RewMinReach_eq]
  cases hf : row.filter (fun t => strat.contains t.act) with
  | nil => rfl
  | cons t0 rest =>
    have hsub : ∀ t ∈ t0 :: rest, x.getD t.tgt 0 = y.getD t.tgt 0 := fun t ht =>
      h t (List.mem_filter.mp (hf ▸ ht)).1
    simp only []
    rw [minOver_congr x y _ _ hsub, hsub t0 List.mem_cons_self]

theorem stepRew_congr {s : Nat} {v w : RewVecs K}
    (her : ∀ t ∈ nodes.getD s [], v.er.getD t.tgt 0 = w.er.getD t.tgt 0)
    (hermr : ∀ t ∈ nodes.getD s [], v.ermr.getD t.tgt 0 = w.ermr.getD t.tgt 0)
    (hpmr : ∀ t ∈ nodes.getD s [], v.pmr.getD t.tgt 0 = w.pmr.getD t.tgt 0) :
    stepRew rnd owners rewards nodes reach v s = stepRew rnd owners rewards nodes reach w s := by
  cases hrow : nodes.getD s [] with
  | nil => rw [stepRew_nil hrow, stepRew_nil hrow]
  | cons t0 rest =>
    have hne : nodes.getD s [] ≠ [] := hrow ▸ List.cons_ne_nil t0 rest
    cases ho : owners.getD s .prob with
    | prob =>
      rw [stepRew_prob hne ho, stepRew_prob hne ho,
        sumOver_congr _ _ _ her, sumOver_congr _ _ _ hermr, sumOver_congr _ _ _ hpmr]
    | p1 =>
      rw [stepRew_p1 hne ho, stepRew_p1 hne ho, selMax_congr _ _ _ her]
      rcases selMax_snd w.er (nodes.getD s []) (0, none) with ⟨h1, _, _⟩ | ⟨t, h1, _, _, h4⟩
      · rw [h1]
      · rw [h1]; simp only []
        rw [hermr t h4.mem, hpmr t h4.mem]
    | p2 =>
      rw [hrow] at her hermr hpmr
      rw [stepRew_p2 hrow ho, stepRew_p2 hrow ho, selMin_congr _ _ _ her,
        her t0 List.mem_cons_self, p2RewMinReach_congr _ _ _ _ _ hermr,
        hpmr _ (selMin_start w.er t0 rest).2.mem]

theorem Brew_nil {x : Array K} {s : Nat} (h : nodes.getD s [] = []) :
    Brew owners rewards nodes x s = 0 := by
  unfold Brew; rw [h]

theorem Brew_prob {x : Array K} {s : Nat} (hne : nodes.getD s [] ≠ [])
    (ho : owners.getD s .prob = .prob) :
    Brew owners rewards nodes x s = rewards.getD s 0 + sumOver x (nodes.getD s []) := by
  unfold Brew
  cases hrow : nodes.getD s [] with
  | nil => exact absurd hrow hne
  | cons t0 rest => simp only [ho]; rfl

theorem Brew_p1 {x : Array K} {s : Nat} (hne : nodes.getD s [] ≠ [])
    (ho : owners.getD s .prob = .p1) :
    Brew owners rewards nodes x s = rewards.getD s 0 + maxOver x (nodes.getD s []) 0 := by
  unfold Brew
  cases hrow : nodes.getD s [] with
  | nil => exact absurd hrow hne
  | cons t0 rest => simp only [ho]; rfl

theorem Brew_p2 {x : Array K} {s : Nat} {t0 : Tr K} {rest : List (Tr K)}
    (hrow : nodes.getD s [] = t0 :: rest) (ho : owners.getD s .prob = .p2) :
    Brew owners rewards nodes x s =
      rewards.getD s 0 + minOver x (t0 :: rest) (x.getD t0.tgt 0) := by
  unfold Brew
  rw [hrow]
  simp only [ho, minOver_cons, min_self]
  rfl

theorem Brew_p2_from {x : Array K} {s : Nat} {u : Tr K} (hu : u ∈ nodes.getD s [])
    (ho : owners.getD s .prob = .p2) :
    Brew owners rewards nodes x s = rewards.getD s 0 + minOver x (nodes.getD s []) (x.getD u.tgt 0) := by
  obtain ⟨t0, rest, hrow⟩ := List.exists_cons_of_ne_nil (List.ne_nil_of_mem hu)
  rw [Brew_p2 hrow ho, ← hrow]
  exact congrArg _ (foldl_min_start (fun t : Tr K => x.getD t.tgt 0) (hrow ▸ List.mem_cons_self) hu)

theorem Brew_congr_row {nodes' : Array (List (Tr K))} {x : Array K} {s : Nat}
    (h : nodes.getD s [] = nodes'.getD s []) :
    Brew owners rewards nodes x s = Brew owners rewards nodes' x s := by
  unfold Brew
  rw [h]

theorem Brew_congr {x y : Array K} {s : Nat}
    (h : ∀ t ∈ nodes.getD s [], x.getD t.tgt 0 = y.getD t.tgt 0) :
    Brew owners rewards nodes x s = Brew owners rewards nodes y s := by
  cases hrow : nodes.getD s [] with
  | nil => rw [Brew_nil hrow, Brew_nil hrow]
  | cons t0 rest =>
    have hne : nodes.getD s [] ≠ [] := hrow ▸ List.cons_ne_nil t0 rest
    cases ho : owners.getD s .prob with
    | prob =>
      rw [Brew_prob hne ho, Brew_prob hne ho, sumOver_congr x y _ h]
    | p1 =>
      rw [Brew_p1 hne ho, Brew_p1 hne ho, maxOver_congr x y _ 0 h]
    | p2 =>
      rw [hrow] at h
      rw [Brew_p2 hrow ho, Brew_p2 hrow ho, minOver_congr x y _ _ h, h t0 List.mem_cons_self]

theorem stepRew_fst {v : RewVecs K} {s : Nat} {e m p : K}
    (h : stepRew rnd owners rewards nodes reach v s = .ok (e, m, p)) :
    e = Brew owners rewards nodes v.er s := by
  cases hrow : nodes.getD s [] with
  | nil =>
    rw [stepRew_nil hrow] at h
    cases h
    exact (Brew_nil hrow).symm
  | cons t0 rest =>
    have hne : nodes.getD s [] ≠ [] := hrow ▸ List.cons_ne_nil t0 rest
    cases ho : owners.getD s .prob with
    | prob =>
      rw [stepRew_prob hne ho] at h
      cases h
      exact (Brew_prob hne ho).symm
    | p1 =>
      rw [stepRew_p1 hne ho] at h
      split at h
      · cases h
      · cases h
        rw [Brew_p1 hne ho, selMax_fst, add_comm]
    | p2 =>
      rw [stepRew_p2 hrow ho] at h
      cases h
      rw [Brew_p2 hrow ho, selMin_fst, add_comm]

theorem le_Brew_of_ne_nil {s : Nat} (hp : RowNonneg owners nodes s) (hne : nodes.getD s [] ≠ [])
    (x : Array K) (h : ∀ t ∈ nodes.getD s [], 0 ≤ x.getD t.tgt 0) :
    rewards.getD s 0 ≤ Brew owners rewards nodes x s := by
  obtain ⟨t0, rest, hrow⟩ := List.exists_cons_of_ne_nil hne
  -- `r ≤ r + a`, the last step for each of the three owners (stated once: unifying the Mathlib
  -- lemma with each goal separately is slow)
  have hle : ∀ {a : K}, 0 ≤ a → rewards.getD s 0 ≤ rewards.getD s 0 + a := le_add_of_nonneg_right
  cases ho : owners.getD s .prob with
  | prob =>
    rw [Brew_prob hne ho]
    exact hle ((zero_mul _).ge.trans (sumOver_lower x (nodes.getD s []) 0 (hp ho) h))
  | p1 =>
    rw [Brew_p1 hne ho]
    exact hle (le_maxOver_init x (nodes.getD s []) 0)
  | p2 =>
    rw [hrow] at h
    rw [Brew_p2 hrow ho]
    exact hle (le_minOver x (t0 :: rest) (x.getD t0.tgt 0) 0 (h t0 List.mem_cons_self) h)

theorem Brew_nonneg {s : Nat} (hp : RowNonneg owners nodes s) (hr : 0 ≤ rewards.getD s 0)
    (x : Array K) (h : ∀ t ∈ nodes.getD s [], 0 ≤ x.getD t.tgt 0) :
    0 ≤ Brew owners rewards nodes x s := by
  by_cases hrow : nodes.getD s [] = []
  · rw [Brew_nil hrow]
  · exact le_trans hr (le_Brew_of_ne_nil hp hrow x h)

/-- monotonicity (`e = 0`) and, used twice, non-expansiveness in one statement; a shift `e ≠ 0`
passes through a weighted sum only if the weights sum to 1, hence `hs` -/
theorem Brew_le_add {s : Nat} (hp : RowNonneg owners nodes s) (x y : Array K) (e : K) (he : 0 ≤ e)
    (hs : e = 0 ∨ (owners.getD s .prob = .prob → nodes.getD s [] ≠ [] →
      psum (nodes.getD s []) = 1))
    (h : ∀ t ∈ nodes.getD s [], x.getD t.tgt 0 ≤ y.getD t.tgt 0 + e) :
    Brew owners rewards nodes x s ≤ Brew owners rewards nodes y s + e := by
  -- a shift passes through `rewards[s] + ·`
  have key : ∀ {a b : K}, a ≤ b + e → rewards.getD s 0 + a ≤ rewards.getD s 0 + b + e :=
    fun h => (add_le_add_right h _).trans_eq (add_assoc _ _ _).symm
  cases hrow : nodes.getD s [] with
  | nil =>
    rw [Brew_nil hrow, Brew_nil hrow, zero_add]
    exact he
  | cons t0 rest =>
    have hne : nodes.getD s [] ≠ [] := hrow ▸ List.cons_ne_nil t0 rest
    cases ho : owners.getD s .prob with
    | prob =>
      rw [Brew_prob hne ho, Brew_prob hne ho]
      exact key (sumOver_le_add x y _ e (hp ho) (hs.imp_right (· ho hne)) h)
    | p1 =>
      rw [Brew_p1 hne ho, Brew_p1 hne ho]
      exact key (maxOver_le_add x y _ 0 0 e (le_add_of_nonneg_right he) h)
    | p2 =>
      rw [hrow] at h
      rw [Brew_p2 hrow ho, Brew_p2 hrow ho]
      exact key (minOver_le_add x y _ _ _ e (h t0 List.mem_cons_self) h)

theorem Brew_mono {s : Nat} (hp : RowNonneg owners nodes s) (x y : Array K)
    (h : ∀ t ∈ nodes.getD s [], x.getD t.tgt 0 ≤ y.getD t.tgt 0) :
    Brew owners rewards nodes x s ≤ Brew owners rewards nodes y s :=
  (Brew_le_add hp x y 0 le_rfl (.inl rfl) fun t ht =>
    (h t ht).trans_eq (add_zero _).symm).trans_eq (add_zero _)

theorem Brew_nonexp {s : Nat} (hp : RowDist owners nodes s) (x y : Array K) (e : K) (he : 0 ≤ e)
    (h : ∀ t ∈ nodes.getD s [], |x.getD t.tgt 0 - y.getD t.tgt 0| ≤ e) :
    |Brew owners rewards nodes x s - Brew owners rewards nodes y s| ≤ e :=
  abs_sub_le_iff_le_add.mpr
    ⟨Brew_le_add hp.nonneg x y e he (.inr hp.sumOne) fun t ht =>
      (abs_sub_le_iff_le_add.mp (h t ht)).1,
     Brew_le_add hp.nonneg y x e he (.inr hp.sumOne) fun t ht =>
      (abs_sub_le_iff_le_add.mp (h t ht)).2⟩

end Step

/-- names the three vectors of `RewVecs`, so that what holds of each is stated once -/
inductive Comp where
  | er | ermr | pmr

def Comp.vec : Comp → RewVecs K → Array K
  | .er, v => v.er
  | .ermr, v => v.ermr
  | .pmr, v => v.pmr

def Comp.val : Comp → K × K × K → K
  | .er, t => t.1
  | .ermr, t => t.2.1
  | .pmr, t => t.2.2

/-- the three values of state `j` -/
def tripleAt (v : RewVecs K) (j : Nat) : K × K × K :=
  (v.er.getD j 0, v.ermr.getD j 0, v.pmr.getD j 0)

omit [LinearOrder K] [IsStrictOrderedRing K] in
theorem tripleAt_eq_iff {v : RewVecs K} {j : Nat} {t : K × K × K} :
    tripleAt v j = t ↔ ∀ c : Comp, (c.vec v).getD j 0 = c.val t :=
  ⟨fun h c => by subst h; cases c <;> rfl, fun h => Prod.ext (h .er) (Prod.ext (h .ermr) (h .pmr))⟩

theorem max3_eq (a b c : K) : max3 a b c = max (max a b) c := by
  unfold max3
  simp only [ite_gt_eq_max]

section Sweep
variable (rnd : K → Int) (owners : Array Owner) (rewards : Array K)
  (nodes : Array (List (Tr K))) (reach : Array K)

/-- `sweepRew` over an arbitrary list of states, started from an arbitrary accumulator -/
def sweepRewFrom (l : List Nat) (acc : RewVecs K × K) : Except Err (RewVecs K × K) :=
  l.foldlM (fun (acc : RewVecs K × K) s => do
    let (e, m, p) ← stepRew rnd owners rewards nodes reach acc.1 s
    let d := max3 (absv (e - acc.1.er.getD s 0)) (absv (m - acc.1.ermr.getD s 0))
      (absv (p - acc.1.pmr.getD s 0))
    pure ({ er := acc.1.er.setIfInBounds s e, ermr := acc.1.ermr.setIfInBounds s m,
            pmr := acc.1.pmr.setIfInBounds s p }, if d > acc.2 then d else acc.2)) acc

theorem sweepRew_eq (v : RewVecs K) :
    sweepRew rnd owners rewards nodes reach v =
      sweepRewFrom rnd owners rewards nodes reach (List.range owners.size) (v, 0) := rfl

/-- the accumulator after state `s` has been given the values `t` -/
def updAcc (acc : RewVecs K × K) (s : Nat) (t : K × K × K) : RewVecs K × K :=
  ({ er := acc.1.er.setIfInBounds s t.1, ermr := acc.1.ermr.setIfInBounds s t.2.1,
     pmr := acc.1.pmr.setIfInBounds s t.2.2 },
   max acc.2 (max (max |t.1 - acc.1.er.getD s 0| |t.2.1 - acc.1.ermr.getD s 0|)
     |t.2.2 - acc.1.pmr.getD s 0|))

@[simp] theorem sweepRewFrom_nil (acc : RewVecs K × K) :
    sweepRewFrom rnd owners rewards nodes reach [] acc = .ok acc := rfl

theorem sweepRewFrom_cons (s : Nat) (l : List Nat) (acc : RewVecs K × K) :
    sweepRewFrom rnd owners rewards nodes reach (s :: l) acc =
      match stepRew rnd owners rewards nodes reach acc.1 s with
      | .error e => .error e
      | .ok t => sweepRewFrom rnd owners rewards nodes reach l (updAcc acc s t) := by
  unfold sweepRewFrom
  rw [List.foldlM_cons]
  simp only [bind, Except.bind]
  cases hst : stepRew rnd owners rewards nodes reach acc.1 s with
  | error e => rfl
  | ok t =>
    obtain ⟨e, m, p⟩ := t
    simp only [pure, Except.pure, updAcc, max3_eq, absv_eq_abs, ite_gt_eq_max]

variable {rnd owners rewards nodes reach} in
theorem sweepRewFrom_cons_ok {s : Nat} {l : List Nat} {acc r : RewVecs K × K}
    (h : sweepRewFrom rnd owners rewards nodes reach (s :: l) acc = .ok r) :
    ∃ t, stepRew rnd owners rewards nodes reach acc.1 s = .ok t ∧
      sweepRewFrom rnd owners rewards nodes reach l (updAcc acc s t) = .ok r := by
  rw [sweepRewFrom_cons] at h
  cases hst : stepRew rnd owners rewards nodes reach acc.1 s with
  | error e => rw [hst] at h; cases h
  | ok t => rw [hst] at h; exact ⟨t, rfl, h⟩

theorem vec_updAcc (c : Comp) (acc : RewVecs K × K) (s : Nat) (t : K × K × K) :
    c.vec (updAcc acc s t).1 = (c.vec acc.1).setIfInBounds s (c.val t) := by
  cases c <;> rfl

theorem updAcc_diff_ge (acc : RewVecs K × K) (s : Nat) (t : K × K × K) :
    acc.2 ≤ (updAcc acc s t).2 := le_max_left _ _

theorem updAcc_change_le (c : Comp) (acc : RewVecs K × K) (s : Nat) (t : K × K × K) :
    |c.val t - (c.vec acc.1).getD s 0| ≤ (updAcc acc s t).2 := by
  unfold updAcc
  cases c
  · exact le_trans (le_trans (le_max_left _ _) (le_max_left _ _)) (le_max_right _ _)
  · exact le_trans (le_trans (le_max_right _ _) (le_max_left _ _)) (le_max_right _ _)
  · exact le_trans (le_max_right _ _) (le_max_right _ _)

variable {rnd owners rewards nodes reach}

theorem sweepRewFrom_induct (P : List Nat → RewVecs K × K → Prop)
    (hstep : ∀ s l (x : RewVecs K × K) t, P (s :: l) x →
      stepRew rnd owners rewards nodes reach x.1 s = .ok t → P l (updAcc x s t))
    (l : List Nat) (acc r : RewVecs K × K) (h : P l acc)
    (hr : sweepRewFrom rnd owners rewards nodes reach l acc = .ok r) : P [] r := by
  induction l generalizing acc with
  | nil => rw [sweepRewFrom_nil] at hr; injection hr with hr; rw [← hr]; exact h
  | cons s l ih =>
    obtain ⟨t, hst, hr'⟩ := sweepRewFrom_cons_ok hr
    exact ih _ (hstep s l acc t h hst) hr'

theorem sweepRewFrom_inv (P : RewVecs K → Prop) (l : List Nat)
    (hstep : ∀ (x : RewVecs K × K) s t, s ∈ l → P x.1 →
      stepRew rnd owners rewards nodes reach x.1 s = .ok t → P (updAcc x s t).1)
    (acc r : RewVecs K × K) (h : P acc.1)
    (hr : sweepRewFrom rnd owners rewards nodes reach l acc = .ok r) : P r.1 :=
  (sweepRewFrom_induct (fun l' x => P x.1 ∧ ∀ s ∈ l', s ∈ l)
    (fun s _ x t hx hst => ⟨hstep x s t (hx.2 s List.mem_cons_self) hx.1 hst,
      fun s' hs' => hx.2 s' (List.mem_cons_of_mem _ hs')⟩) l acc r ⟨h, fun _ hs => hs⟩ hr).1

theorem er_updAcc (a : RewVecs K × K) (s : Nat) (t : K × K × K)
    (hst : stepRew rnd owners rewards nodes reach a.1 s = .ok t) :
    (updAcc a s t).1.er = a.1.er.setIfInBounds s (Brew owners rewards nodes a.1.er s) := by
  obtain ⟨e, m, p⟩ := t
  rw [← stepRew_fst hst]
  rfl

/-- on `er` the sweep is a Gauss–Seidel sweep of `Brew`: what survives the writes
`x[s] := Brew x s` survives the sweep -/
theorem sweepRewFrom_er_inv (P : Array K → Prop) (l : List Nat)
    (hstep : ∀ x s, s ∈ l → P x → P (x.setIfInBounds s (Brew owners rewards nodes x s)))
    (acc r : RewVecs K × K) (h : P acc.1.er)
    (hr : sweepRewFrom rnd owners rewards nodes reach l acc = .ok r) : P r.1.er :=
  sweepRewFrom_inv (fun v => P v.er) l
    (fun a s t hs ha hst => by rw [er_updAcc a s t hst]; exact hstep _ s hs ha) acc r h hr

theorem sweepRewFrom_size (c : Comp) (l : List Nat) (acc r : RewVecs K × K)
    (hr : sweepRewFrom rnd owners rewards nodes reach l acc = .ok r) :
    (c.vec r.1).size = (c.vec acc.1).size :=
  sweepRewFrom_inv (fun x => (c.vec x).size = (c.vec acc.1).size) l
    (fun x s t _ h _ => by rw [vec_updAcc]; simpa using h) acc r rfl hr

theorem sweepRewFrom_untouched (c : Comp) (l : List Nat) (acc r : RewVecs K × K)
    (hr : sweepRewFrom rnd owners rewards nodes reach l acc = .ok r) (j : Nat) (hj : j ∉ l) :
    (c.vec r.1).getD j 0 = (c.vec acc.1).getD j 0 :=
  sweepRewFrom_inv (fun x => (c.vec x).getD j 0 = (c.vec acc.1).getD j 0) l
    (fun x s t hs h _ => by
      rw [vec_updAcc, getD_set_ne _ _ fun e : s = j => hj (e ▸ hs), h]) acc r rfl hr

theorem sweepRewFrom_diff_ge (l : List Nat) (acc r : RewVecs K × K)
    (hr : sweepRewFrom rnd owners rewards nodes reach l acc = .ok r) : acc.2 ≤ r.2 :=
  sweepRewFrom_induct (fun _ x => acc.2 ≤ x.2)
    (fun s _ x t hx _ => hx.trans (updAcc_diff_ge x s t)) l acc r le_rfl hr

theorem sweepRewFrom_change_le (c : Comp) (l : List Nat) (hnd : l.Nodup) (acc r : RewVecs K × K)
    (h0 : 0 ≤ acc.2) (hr : sweepRewFrom rnd owners rewards nodes reach l acc = .ok r) (j : Nat) :
    |(c.vec r.1).getD j 0 - (c.vec acc.1).getD j 0| ≤ r.2 := by
  induction l generalizing acc with
  | nil => rw [sweepRewFrom_nil] at hr; injection hr with hr; rw [← hr]; exact abs_sub_self_le _ h0
  | cons s l ih =>
    obtain ⟨t, _, hr'⟩ := sweepRewFrom_cons_ok hr
    have hnd' := List.nodup_cons.mp hnd
    have h01 : 0 ≤ (updAcc acc s t).2 := le_trans h0 (updAcc_diff_ge acc s t)
    have ih' := ih hnd'.2 _ h01 hr'
    by_cases hsj : s = j ∧ s < (c.vec acc.1).size
    · obtain ⟨rfl, hlt⟩ := hsj
      rw [sweepRewFrom_untouched c l _ r hr' s hnd'.1, vec_updAcc, getD_setIfInBounds]
      simp only [hlt, and_self, if_true]
      exact le_trans (updAcc_change_le c acc s t) (sweepRewFrom_diff_ge l _ r hr')
    · have : (c.vec (updAcc acc s t).1).getD j 0 = (c.vec acc.1).getD j 0 := by
        rw [vec_updAcc, getD_setIfInBounds]; simp [hsj]
      rw [← this]; exact ih'

theorem sweepRewFrom_append (l1 l2 : List Nat) (acc : RewVecs K × K) :
    sweepRewFrom rnd owners rewards nodes reach (l1 ++ l2) acc =
      sweepRewFrom rnd owners rewards nodes reach l1 acc >>=
        sweepRewFrom rnd owners rewards nodes reach l2 :=
  List.foldlM_append

/-- split the list at `s` (as `VI.sweepFrom_visit`): `s` is written once, with `stepRew` of the
state `a` reached just before, and nothing after touches it -/
theorem sweepRewFrom_visit {l : List Nat} (hnd : l.Nodup) (acc r : RewVecs K × K)
    (hr : sweepRewFrom rnd owners rewards nodes reach l acc = .ok r) {s : Nat} (hs : s ∈ l) :
    ∃ l1 l2 a t, l = l1 ++ s :: l2 ∧
      sweepRewFrom rnd owners rewards nodes reach l1 acc = .ok a ∧
      stepRew rnd owners rewards nodes reach a.1 s = .ok t ∧
      sweepRewFrom rnd owners rewards nodes reach (s :: l2) a = .ok r ∧
      ∀ c : Comp, s < (c.vec acc.1).size → (c.vec r.1).getD s 0 = c.val t := by
  obtain ⟨l1, l2, rfl⟩ := List.append_of_mem hs
  rw [sweepRewFrom_append, bind_eq_ok] at hr
  obtain ⟨a, hr1, hr2⟩ := hr
  obtain ⟨t, hst, hr3⟩ := sweepRewFrom_cons_ok hr2
  refine ⟨l1, l2, a, t, rfl, hr1, hst, hr2, fun c hlt => ?_⟩
  rw [sweepRewFrom_untouched c l2 _ r hr3 s (List.nodup_cons.mp (List.nodup_append.mp hnd).2.1).1,
    vec_updAcc, getD_set_self _ _ (by rw [sweepRewFrom_size c l1 acc a hr1]; exact hlt)]

end Sweep

/-- all three vectors have one entry per state -/
def Sized (n : Nat) (v : RewVecs K) : Prop := v.er.size = n ∧ v.ermr.size = n ∧ v.pmr.size = n

theorem Sized.vec {n : Nat} {v : RewVecs K} (h : Sized n v) (c : Comp) : (c.vec v).size = n := by
  cases c
  · exact h.1
  · exact h.2.1
  · exact h.2.2

theorem Sized.of_vec {n : Nat} {v : RewVecs K} (h : ∀ c : Comp, (c.vec v).size = n) : Sized n v :=
  ⟨h .er, h .ermr, h .pmr⟩

theorem Sized.updAcc {n : Nat} {x : RewVecs K × K} (h : Sized n x.1) (s : Nat) (t : K × K × K) :
    Sized n (updAcc x s t).1 :=
  .of_vec fun c => by rw [vec_updAcc, Array.size_setIfInBounds]; exact h.vec c

section Diag
variable {rnd : K → Int} {owners : Array Owner} {rewards : Array K}
  {nodes : Array (List (Tr K))} {reach : Array K}

theorem stepRew_ok_of_nonneg (v : RewVecs K) (s : Nat) (hx : ∀ j, 0 ≤ v.er.getD j 0) :
    ∃ t, stepRew rnd owners rewards nodes reach v s = .ok t := by
  cases hrow : nodes.getD s [] with
  | nil => exact ⟨_, stepRew_nil hrow⟩
  | cons t0 rest =>
    have hne : nodes.getD s [] ≠ [] := hrow ▸ List.cons_ne_nil t0 rest
    cases ho : owners.getD s .prob with
    | prob => exact ⟨_, stepRew_prob hne ho⟩
    | p2 => exact ⟨_, stepRew_p2 hrow ho⟩
    | p1 =>
      -- the fold starts at `(0, none)`: any successor of value `≥ 0` replaces the `none`
      rw [stepRew_p1 hne ho]
      rcases selMax_snd v.er (nodes.getD s []) (0, none) with ⟨_, _, h3⟩ | ⟨t, h1, _⟩
      · have := h3 t0 (by rw [hrow]; exact List.mem_cons_self)
        exact absurd (hx t0.tgt) (not_le.mpr this)
      · rw [h1]; exact ⟨_, rfl⟩

theorem p2RewMinReach_nonexp (r : K) (x y : Array K) (row : List (Tr K)) (strat : List String)
    (ε : K) (h : ∀ j, |x.getD j 0 - y.getD j 0| ≤ ε) :
    |p2RewMinReach r x row strat - p2RewMinReach r y row strat| ≤ ε := by
  have hε : 0 ≤ ε := nonneg_of_abs_le (h 0)
  rw [p2RewMinReach_eq, p2RewMinReach_eq]
  cases row.filter (fun t => strat.contains t.act) with
  | nil => exact abs_sub_self_le 0 hε
  | cons t0 rest =>
    simp only []
    rw [add_sub_add_right_eq_sub]
    exact minOver_nonexp _ _ _ _ _ _ (h _) (fun t _ => h _)

/-- the "rewards under minimal reachability" component of a Player-2 state is non-expansive in
`ermr` alone (the transitions it ranges over are fixed by the reachability strategy) -/
theorem stepRew_p2_ermr_nonexp (v w : RewVecs K) (s : Nat) (ε : K)
    (ho : owners.getD s .prob = .p2)
    (h2 : ∀ j, |v.ermr.getD j 0 - w.ermr.getD j 0| ≤ ε) {tv tw : K × K × K}
    (hv : stepRew rnd owners rewards nodes reach v s = .ok tv)
    (hw : stepRew rnd owners rewards nodes reach w s = .ok tw) : |tv.2.1 - tw.2.1| ≤ ε := by
  have hε : 0 ≤ ε := nonneg_of_abs_le (h2 0)
  cases hrow : nodes.getD s [] with
  | nil =>
    rw [stepRew_nil hrow] at hv hw
    cases hv; cases hw
    exact abs_sub_self_le 0 hε
  | cons t0 rest =>
    rw [stepRew_p2 hrow ho] at hv hw
    cases hv; cases hw
    exact p2RewMinReach_nonexp _ _ _ _ _ _ h2

/-- both diagnostic components are non-expansive in (`ermr`, `pmr`) provided that, at a player
state, the two `er` vectors agree (so that the same successor is followed) -/
theorem stepRew_diag_nonexp (v w : RewVecs K) (s : Nat) (ε : K) (hp : RowDist owners nodes s)
    (her : owners.getD s .prob = .prob ∨ ∀ j, v.er.getD j 0 = w.er.getD j 0)
    (h2 : ∀ j, |v.ermr.getD j 0 - w.ermr.getD j 0| ≤ ε)
    (h3 : ∀ j, |v.pmr.getD j 0 - w.pmr.getD j 0| ≤ ε) {tv tw : K × K × K}
    (hv : stepRew rnd owners rewards nodes reach v s = .ok tv)
    (hw : stepRew rnd owners rewards nodes reach w s = .ok tw) :
    |tv.2.1 - tw.2.1| ≤ ε ∧ |tv.2.2 - tw.2.2| ≤ ε := by
  have hε : 0 ≤ ε := nonneg_of_abs_le (h2 0)
  cases hrow : nodes.getD s [] with
  | nil =>
    rw [stepRew_nil hrow] at hv hw
    cases hv; cases hw
    exact ⟨abs_sub_self_le 0 hε, abs_sub_self_le 0 hε⟩
  | cons t0 rest =>
    have hne : nodes.getD s [] ≠ [] := hrow ▸ List.cons_ne_nil t0 rest
    cases ho : owners.getD s .prob with
    | prob =>
      rw [stepRew_prob hne ho] at hv hw
      cases hv; cases hw
      simp only []
      rw [add_sub_add_left_eq_sub]
      exact ⟨sumOver_nonexp v.ermr w.ermr _ ε (hp.nonneg ho) (hp.sumOne ho hne) fun t _ => h2 _,
        sumOver_nonexp v.pmr w.pmr _ ε (hp.nonneg ho) (hp.sumOne ho hne) fun t _ => h3 _⟩
    | p1 =>
      have her' := her.resolve_left (by rw [ho]; simp)
      rw [stepRew_p1 hne ho] at hv hw
      rw [selMax_congr v.er w.er _ (fun t _ => her' _)] at hv
      cases hsel : (selMax w.er (nodes.getD s []) (0, none)).2 with
      | none => rw [hsel] at hv; cases hv
      | some t =>
        rw [hsel] at hv hw
        cases hv; cases hw
        simp only []
        rw [add_sub_add_right_eq_sub]
        exact ⟨h2 _, h3 _⟩
    | p2 =>
      have her' := her.resolve_left (by rw [ho]; simp)
      refine ⟨stepRew_p2_ermr_nonexp v w s ε ho h2 hv hw, ?_⟩
      rw [stepRew_p2 hrow ho] at hv hw
      rw [selMin_congr v.er w.er _ (fun t _ => her' _), her' t0.tgt] at hv
      cases hv; cases hw
      exact h3 _

end Diag

section FullSweep
variable {rnd : K → Int} {owners : Array Owner} {rewards : Array K}
  {nodes : Array (List (Tr K))} {reach : Array K}

theorem sweepRew_size (c : Comp) {v w : RewVecs K} {d : K}
    (h : sweepRew rnd owners rewards nodes reach v = .ok (w, d)) :
    (c.vec w).size = (c.vec v).size :=
  sweepRewFrom_size c _ (v, 0) (w, d) h

theorem sweepRew_sized {n : Nat} {v w : RewVecs K} {d : K} (hv : Sized n v)
    (h : sweepRew rnd owners rewards nodes reach v = .ok (w, d)) : Sized n w :=
  .of_vec fun c => (sweepRew_size c h).trans (hv.vec c)

theorem sweepRew_diff_nonneg {v w : RewVecs K} {d : K}
    (h : sweepRew rnd owners rewards nodes reach v = .ok (w, d)) : 0 ≤ d :=
  sweepRewFrom_diff_ge _ (v, 0) (w, d) h

/-- the moment `s` is visited: `a` are the vectors just before, `t` the values written.  `a` is
within `d` of the result in every entry; its `er` entries are those of `v` (not yet visited) or of
`w` (visited): only `sweepRew_diag` uses this, to pass "`er` unchanged by the sweep" on to `a` -/
theorem sweepRew_expose {v w : RewVecs K} {d : K} (hv : Sized owners.size v)
    (h : sweepRew rnd owners rewards nodes reach v = .ok (w, d)) (s : Nat) (hs : s < owners.size) :
    ∃ (a : RewVecs K) (t : K × K × K),
      stepRew rnd owners rewards nodes reach a s = .ok t ∧
      (∀ c : Comp, (c.vec w).getD s 0 = c.val t) ∧
      (∀ (c : Comp) j, |(c.vec w).getD j 0 - (c.vec a).getD j 0| ≤ d) ∧
      (∀ j, a.er.getD j 0 = v.er.getD j 0 ∨ a.er.getD j 0 = w.er.getD j 0) := by
  rw [sweepRew_eq] at h
  obtain ⟨l1, l2, a, t, hl, hr1, hst, hr2, hval⟩ :=
    sweepRewFrom_visit List.nodup_range (v, 0) (w, d) h (List.mem_range.mpr hs)
  obtain ⟨-, hnd2, hdis⟩ := List.nodup_append.mp (hl ▸ List.nodup_range)
  refine ⟨a.1, t, hst, fun c => hval c (hs.trans_eq (hv.vec c).symm),
    fun c j => sweepRewFrom_change_le c _ hnd2 a (w, d) (sweepRewFrom_diff_ge l1 (v, 0) a hr1) hr2 j,
    fun j => ?_⟩
  by_cases hj : j ∈ l1
  · exact .inr (sweepRewFrom_untouched .er _ a (w, d) hr2 j fun h => hdis j hj j h rfl).symm
  · exact .inl (sweepRewFrom_untouched .er l1 (v, 0) a hr1 j hj)

theorem sweepRew_nonneg (hr : ∀ s < owners.size, 0 ≤ rewards.getD s 0)
    (hp : ∀ s < owners.size, RowNonneg owners nodes s) (v : RewVecs K)
    (hv : ∀ j, 0 ≤ v.er.getD j 0) :
    ∃ r, sweepRew rnd owners rewards nodes reach v = .ok r ∧ ∀ j, 0 ≤ r.1.er.getD j 0 := by
  suffices ∀ (l : List Nat) (x : RewVecs K × K), (∀ s ∈ l, s < owners.size) →
      (∀ j, 0 ≤ x.1.er.getD j 0) →
      ∃ r, sweepRewFrom rnd owners rewards nodes reach l x = .ok r ∧ ∀ j, 0 ≤ r.1.er.getD j 0 from
    this _ (v, 0) (fun _ => List.mem_range.mp) hv
  intro l
  induction l with
  | nil => exact fun x _ hx => ⟨x, rfl, hx⟩
  | cons s l ih =>
    intro x hl hx
    have hs := hl s List.mem_cons_self
    obtain ⟨t, hst⟩ : ∃ t, stepRew rnd owners rewards nodes reach x.1 s = .ok t :=
      stepRew_ok_of_nonneg x.1 s hx
    rw [sweepRewFrom_cons, hst]
    refine ih _ (fun s' hs' => hl s' (List.mem_cons_of_mem _ hs')) ?_
    rw [er_updAcc x s t hst]
    exact getD_set_ind (fun _ a => 0 ≤ a) hx fun _ =>
      Brew_nonneg (hp s hs) (hr s hs) _ fun _ _ => hx _

theorem sweepRew_residual (hwf : NodesWF owners nodes) {v w : RewVecs K} {d : K}
    (hv : Sized owners.size v) (h : sweepRew rnd owners rewards nodes reach v = .ok (w, d))
    (s : Nat) (hs : s < owners.size) :
    |Brew owners rewards nodes w.er s - w.er.getD s 0| ≤ d := by
  obtain ⟨a, ⟨e, m, p⟩, hst, hval, hclose, _⟩ := sweepRew_expose hv h s hs
  rw [show w.er.getD s 0 = e from hval .er, stepRew_fst hst]
  exact Brew_nonexp (hwf s hs) _ _ d (sweepRew_diff_nonneg h) fun t _ => hclose .er t.tgt

/-- a reported change of `0` makes every intermediate state of the sweep agree with the result entry
by entry, and the step reads its argument only through `getD`: the result is a fixed point of the
step, whatever the probabilities -/
theorem sweepRew_zero_fixed {v w : RewVecs K} (hv : Sized owners.size v)
    (h : sweepRew rnd owners rewards nodes reach v = .ok (w, 0)) (s : Nat) (hs : s < owners.size) :
    stepRew rnd owners rewards nodes reach w s = .ok (tripleAt w s) := by
  obtain ⟨a, t, hst, hval, hclose, _⟩ := sweepRew_expose hv h s hs
  have heq : ∀ (c : Comp) j, (c.vec w).getD j 0 = (c.vec a).getD j 0 := fun c j =>
    sub_eq_zero.mp (abs_nonpos_iff.mp (hclose c j))
  rw [stepRew_congr (fun t _ => heq .er _) (fun t _ => heq .ermr _) (fun t _ => heq .pmr _),
    hst, tripleAt_eq_iff.mpr hval]

theorem sweepRew_emptied (c : Comp) {v w : RewVecs K} {d : K} (hv : Sized owners.size v)
    (h : sweepRew rnd owners rewards nodes reach v = .ok (w, d)) (s : Nat)
    (hs : s < owners.size) (hrow : nodes.getD s [] = []) : (c.vec w).getD s 0 = 0 := by
  obtain ⟨a, t, hst, hval, _, _⟩ := sweepRew_expose hv h s hs
  rw [stepRew_nil hrow] at hst
  injection hst with hst
  rw [hval c, ← hst]
  cases c <;> rfl

theorem sweepRew_diag (hwf : NodesWF owners nodes) {v w : RewVecs K} {d : K}
    (hv : Sized owners.size v) (h : sweepRew rnd owners rewards nodes reach v = .ok (w, d))
    (s : Nat) (hs : s < owners.size)
    (her : owners.getD s .prob = .prob ∨ ∀ j, v.er.getD j 0 = w.er.getD j 0)
    {t : K × K × K} (ht : stepRew rnd owners rewards nodes reach w s = .ok t) :
    |t.2.1 - w.ermr.getD s 0| ≤ d ∧ |t.2.2 - w.pmr.getD s 0| ≤ d := by
  obtain ⟨a, ta, hst, hval, hclose, hera⟩ := sweepRew_expose hv h s hs
  rw [show w.ermr.getD s 0 = ta.2.1 from hval .ermr, show w.pmr.getD s 0 = ta.2.2 from hval .pmr]
  exact stepRew_diag_nonexp w a s d (hwf s hs)
    (her.imp_right fun her j => (hera j).elim (fun h1 => (h1.trans (her j)).symm) Eq.symm)
    (hclose .ermr) (hclose .pmr) ht hst

theorem sweepRew_diag_p2_ermr {v w : RewVecs K} {d : K} (hv : Sized owners.size v)
    (h : sweepRew rnd owners rewards nodes reach v = .ok (w, d)) (s : Nat)
    (hs : s < owners.size) (ho : owners.getD s .prob = .p2)
    {t : K × K × K} (ht : stepRew rnd owners rewards nodes reach w s = .ok t) :
    |t.2.1 - w.ermr.getD s 0| ≤ d := by
  obtain ⟨a, ta, hst, hval, hclose, _⟩ := sweepRew_expose hv h s hs
  rw [show w.ermr.getD s 0 = ta.2.1 from hval .ermr]
  exact stepRew_p2_ermr_nonexp w a s d ho (hclose .ermr) ht hst

end FullSweep

section Loop
variable {rnd : K → Int} {owners : Array Owner} {rewards : Array K}
  {nodes : Array (List (Tr K))} {reach : Array K}

theorem viRew_exit {thr : K} (fuel : Nat) {diff : K} (v : RewVecs K) (i : Nat)
    (h : ¬ diff > thr) : viRew rnd owners rewards nodes reach thr fuel diff v i = .ok (v, i) := by
  cases fuel <;> (unfold viRew; rw [if_neg h])

theorem viRew_succ {thr : K} (fuel : Nat) {diff : K} (v : RewVecs K) (i : Nat) (h : diff > thr) :
    viRew rnd owners rewards nodes reach thr (fuel + 1) diff v i =
      sweepRew rnd owners rewards nodes reach v >>= fun r =>
        viRew rnd owners rewards nodes reach thr fuel r.2 r.1 (i + 1) := by
  rw [viRew, if_pos h]

/-- an `.ok` run is `m` sweeps, each begun with `diff` above the threshold, and an exit with `diff`
not above it; `P` is an invariant of (number of sweeps, vectors, `diff`) -/
theorem viRew_run {thr : K} (P : Nat → RewVecs K × K → Prop)
    (hP : ∀ k x y, P k x → x.2 > thr → sweepRew rnd owners rewards nodes reach x.1 = .ok y →
      P (k + 1) y)
    (fuel : Nat) (diff : K) (v : RewVecs K) (i k : Nat) (r : RewVecs K × Nat) (hv : P k (v, diff))
    (h : viRew rnd owners rewards nodes reach thr fuel diff v i = .ok r) :
    ∃ m d, r.2 = i + m ∧ P (k + m) (r.1, d) ∧ ¬ d > thr := by
  induction fuel generalizing diff v i k with
  | zero =>
    unfold viRew at h
    split_ifs at h with hd
    cases h
    exact ⟨0, diff, rfl, hv, hd⟩
  | succ fuel ih =>
    by_cases hd : diff > thr
    · rw [viRew_succ fuel v i hd, bind_eq_ok] at h
      obtain ⟨r', hs, h⟩ := h
      obtain ⟨m, d, hm, hPm, hd'⟩ := ih _ _ _ _ (hP k (v, diff) r' hv hd hs) h
      rw [Nat.add_right_comm] at hm hPm
      exact ⟨m + 1, d, hm, hPm, hd'⟩
    · rw [viRew_exit _ v i hd] at h
      cases h
      exact ⟨0, diff, rfl, hv, hd⟩

theorem viRew_run_vecs (P : Nat → RewVecs K → Prop)
    (hP : ∀ k x y d, P k x → sweepRew rnd owners rewards nodes reach x = .ok (y, d) → P (k + 1) y)
    (thr : K) (fuel : Nat) (diff : K) (v : RewVecs K) (i k : Nat) (r : RewVecs K × Nat)
    (hv : P k v) (h : viRew rnd owners rewards nodes reach thr fuel diff v i = .ok r) :
    ∃ m, r.2 = i + m ∧ P (k + m) r.1 := by
  obtain ⟨m, _, hm, hPm, _⟩ := viRew_run (fun k x => P k x.1)
    (fun k x y hx _ hs => hP k x.1 y.1 y.2 hx hs) fuel diff v i k r hv h
  exact ⟨m, hm, hPm⟩

/-- the invariant `P` holds of the result and, if the loop ran at all, the last sweep started from
vectors satisfying `P` and reported a change `≤ thr` -/
theorem viRew_spec (P : RewVecs K → Prop)
    (hP : ∀ x y d, P x → sweepRew rnd owners rewards nodes reach x = .ok (y, d) → P y)
    (thr : K) (fuel : Nat) (diff : K) (v : RewVecs K) (i : Nat) (w : RewVecs K) (j : Nat)
    (hv : P v) (h : viRew rnd owners rewards nodes reach thr fuel diff v i = .ok (w, j)) :
    P w ∧ (diff > thr → ∃ v' d, P v' ∧
      sweepRew rnd owners rewards nodes reach v' = .ok (w, d) ∧ d ≤ thr) := by
  obtain ⟨_, d, _, ⟨hw, hcase⟩, hd⟩ := viRew_run
    (fun _ x => P x.1 ∧ (x = (v, diff) ∨
      ∃ v', P v' ∧ sweepRew rnd owners rewards nodes reach v' = .ok x))
    (fun _ x y hx _ hs => ⟨hP x.1 y.1 y.2 hx.1 hs, .inr ⟨x.1, hx.1, hs⟩⟩)
    fuel diff v i 0 (w, j) ⟨hv, .inl rfl⟩ h
  refine ⟨hw, fun hgt => ?_⟩
  rcases hcase with hx | ⟨v', hv', hs⟩
  · exact absurd ((Prod.mk.inj hx).2 ▸ hgt) hd
  · exact ⟨v', d, hv', hs, not_lt.mp hd⟩

theorem viRew_error_eq_outOfFuel (P : RewVecs K → Prop)
    (hP : ∀ x, P x → ∃ r, sweepRew rnd owners rewards nodes reach x = .ok r ∧ P r.1)
    (thr : K) (fuel : Nat) (diff : K) (v : RewVecs K) (i : Nat) (e : Err) (hv : P v)
    (h : viRew rnd owners rewards nodes reach thr fuel diff v i = .error e) : e = .outOfFuel := by
  induction fuel generalizing diff v i with
  | zero =>
    unfold viRew at h
    split_ifs at h
    exact (Except.error.inj h).symm
  | succ fuel ih =>
    by_cases hd : diff > thr
    · obtain ⟨r, hsw, hr⟩ := hP v hv
      rw [viRew_succ fuel v i hd, hsw] at h
      exact ih _ _ _ hr h
    · rw [viRew_exit _ v i hd] at h
      cases h

end Loop

end CR.Rew

namespace CR.C06
variable {K : Type} [Field K] [LinearOrder K] [IsStrictOrderedRing K]

/- Defined here because `CR/Lemmas/Term.lean` and `CR/Lemmas/Ranked.lean` both need it and this
file is their common import.  `ReachRank.Absorbing` (`CR/Lemmas/ReachRanked.lean`) is the weaker
notion of the reachability side: a non-empty row all of whose targets are `s`. -/

/-- an absorbing state of a node list: probabilistic, reward 0, and its only transition is a
self-loop of probability 1 (this is how final states and sinks are written) -/
def Absorbing (o : Array Owner) (rewards : Array K) (nodes : Array (List (Tr K))) (s : Nat) :
    Prop :=
  o.getD s .prob = .prob ∧ rewards.getD s 0 = 0 ∧
    ∃ t, nodes.getD s [] = [t] ∧ t.tgt = s ∧ t.p = 1

instance {o : Array Owner} {rewards : Array K} {nodes : Array (List (Tr K))} (s : Nat) :
    Decidable (Absorbing o rewards nodes s) :=
  decidable_of_iff (o.getD s .prob = .prob ∧ rewards.getD s 0 = 0 ∧
      (nodes.getD s []).length = 1 ∧ ∀ t ∈ nodes.getD s [], t.tgt = s ∧ t.p = 1) <| by
    unfold Absorbing
    refine and_congr_right fun _ => and_congr_right fun _ => ?_
    rw [List.length_eq_one_iff]
    constructor
    · rintro ⟨⟨t, ht⟩, h⟩
      exact ⟨t, ht, h t (by simp [ht])⟩
    · rintro ⟨t, ht, h⟩
      exact ⟨⟨t, ht⟩, by simpa [ht] using h⟩

open CR.VI CR.Rew

variable {o : Array Owner} {rewards : Array K} {nodes : Array (List (Tr K))} {s : Nat}

theorem Absorbing.succ_eq (h : Absorbing o rewards nodes s) {t : Tr K}
    (ht : t ∈ nodes.getD s []) : t.tgt = s := by
  obtain ⟨-, -, u, hrow, hu, -⟩ := h
  rw [hrow, List.mem_singleton] at ht
  rw [ht, hu]

theorem stepRew_absorbing {rnd : K → Int} {reach : Array K} (h : Absorbing o rewards nodes s)
    (w : RewVecs K) : stepRew rnd o rewards nodes reach w s = .ok (tripleAt w s) := by
  obtain ⟨ho, hr, t, hrow, ht, hp⟩ := h
  rw [stepRew_prob (by rw [hrow]; simp) ho, hrow, hr]
  simp only [sumOver_cons, sumOver_nil, ht, hp, mul_one, add_zero, zero_add, tripleAt]

/-- at an absorbing state the reward equation is `x[s] = 0 + 1·x[s]` -/
theorem Brew_absorbing (h : Absorbing o rewards nodes s) (x : Array K) :
    Brew o rewards nodes x s = x.getD s 0 :=
  -- `Brew` is the first component of the step, whatever `rnd` and `reach`
  (stepRew_fst (stepRew_absorbing (rnd := fun _ => 0) (reach := #[]) h ⟨x, x, x⟩)).symm

end CR.C06
