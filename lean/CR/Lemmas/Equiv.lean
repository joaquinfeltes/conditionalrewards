/-
Re-presentations (property C13): the specifications the other property theorems relate the solver's
output to (graph reachability, the Bellman operator, pre-fixed points, the value, optimal-action
sets, the conditioned rows, the strategy lists) commute with `Presents`.

Everything these compute from one row is a map, a filter or an order-independent fold of its
transitions read against a vector: `map_rel`, `filter_rel`, `foldl_rel` say that such a quantity is
the same for a re-presented row, given that what is read is (`RowRel`: the vectors agree on the
targets).  The statements about states and vectors are instances; one about all states of `g'`
becomes one about all `π s` by `Renum.forall_iff`.
-/
import CR.Props.C01Path
import CR.Lemmas.Prune
import CR.Props.C07
import CR.Lemmas.Strat
import Mathlib.Data.Fintype.Card
import Mathlib.Data.Fintype.EquivFin
import Mathlib.Algebra.BigOperators.Group.List.Basic

-- every statement that mentions `K` takes all three instances of the `variable` line with it; those
-- that only move transitions or indices about (`trMap_*`, `Transports.*`, `edge_*`, `rkey_rel`, …) use
-- at most the `0` of the field: the order comes in with `maxOver_rel`, the arithmetic with `sumOver_rel`
set_option linter.unusedSectionVars false

namespace CR.Present

open CR CR.VI

variable {K : Type} [Field K] [LinearOrder K] [IsStrictOrderedRing K]

def trMap (π : Nat → Nat) (ρ : String → String) (t : Tr K) : Tr K :=
  { act := ρ t.act, p := t.p, tgt := π t.tgt }

/-- the successor lists handed to `reverseDfs` by `solveReach`.  A separate constant only because the
statements of C13 name it; definitionally `C01.targets`, which is how `C01.edge_iff` and
`C01.gameOrder_mem_iff` apply to it. -/
def targets (g : Game K) : List (List Nat) := g.tl.toList.map (fun row => row.map (·.tgt))

/-- one row per state (`.1` is `Shape g`) and all targets are states (guaranteed by `check_game` /
`init_states`; implied by `C01.WF`) -/
def TgtOk (g : Game K) : Prop :=
  g.tl.size = g.owners.size ∧
    ∀ s < g.owners.size, ∀ t ∈ g.tl.getD s [], t.tgt < g.owners.size

/-- `g'` is `g` with the states renumbered by `π` (a permutation of `0..n-1` fixing `0`), the
transitions inside every state reordered arbitrarily, and the actions renamed by the injective
`ρ`. -/
structure Presents (π : Nat → Nat) (ρ : String → String) (g g' : Game K) : Prop where
  n_owners : g'.owners.size = g.owners.size
  n_tl : g'.tl.size = g.tl.size
  n_rewards : g'.rewards.size = g.rewards.size
  maps : ∀ s < g.owners.size, π s < g.owners.size
  inj : ∀ s < g.owners.size, ∀ s' < g.owners.size, π s = π s' → s = s'
  fix0 : π 0 = 0
  owners : ∀ s < g.owners.size, g'.owners.getD (π s) .prob = g.owners.getD s .prob
  rewards : ∀ s < g.owners.size, g'.rewards.getD (π s) 0 = g.rewards.getD s 0
  rows : ∀ s < g.owners.size,
    List.Perm (g'.tl.getD (π s) []) ((g.tl.getD s []).map (trMap π ρ))
  finals : ∀ s < g.owners.size, (π s ∈ g'.finals ↔ s ∈ g.finals)
  ρ_inj : ∀ a b, ρ a = ρ b → a = b

/-- `x'` is the vector `x` (one entry per state) renumbered by `π` -/
def Transports (π : Nat → Nat) (n : Nat) (x x' : Array K) : Prop :=
  x.size = n ∧ x'.size = n ∧ ∀ s < n, x'.getD (π s) 0 = x.getD s 0

/-- the inverse of `π` on `0..n-1`, by search -/
def invOn (π : Nat → Nat) (n u : Nat) : Nat :=
  ((List.range n).find? (fun s => π s = u)).getD 0

/-- renumber a vector of `g'` back to `g` : `(pull π n y')[s] = y'[π s]` -/
def pull (π : Nat → Nat) (n : Nat) (y' : Array K) : Array K :=
  Array.ofFn (n := n) (fun i => y'.getD (π i) 0)

/-- renumber a vector of `g` to `g'` : `(push π n y)[π s] = y[s]` -/
def push (π : Nat → Nat) (n : Nat) (y : Array K) : Array K :=
  Array.ofFn (n := n) (fun i => y.getD (invOn π n i) 0)

/-- the value-optimal actions of a maximising state: the actions of the transitions whose target
has the largest value -/
def OptActsMax (g : Game K) (v : Array K) (s : Nat) : Set String :=
  { a | ∃ t ∈ g.tl.getD s [], t.act = a ∧ ∀ t' ∈ g.tl.getD s [], v.getD t'.tgt 0 ≤ v.getD t.tgt 0 }

/-- the value-optimal actions of a minimising state -/
def OptActsMin (g : Game K) (v : Array K) (s : Nat) : Set String :=
  { a | ∃ t ∈ g.tl.getD s [], t.act = a ∧ ∀ t' ∈ g.tl.getD s [], v.getD t.tgt 0 ≤ v.getD t'.tgt 0 }

/-- two strategy tables name the same actions up to the renaming / renumbering -/
def StratRel (π : Nat → Nat) (ρ : String → String) (n : Nat) (st st' : Array Strat) : Prop :=
  ∀ s < n, ∀ a, ((st'.getD (π s) none).getD []).contains (ρ a)
    = ((st.getD s none).getD []).contains a

/-- two strategy entries are equal up to the renaming and the order of the listed actions -/
def StratPerm (ρ : String → String) : Strat → Strat → Prop
  | none, none => True
  | some l, some l' => l'.Perm (l.map ρ)
  | _, _ => False

variable {π : Nat → Nat} {ρ : String → String} {g g' : Game K}

theorem tgtOk_of_wf (h : C01.WF g) : TgtOk g := ⟨h.1, h.2.1⟩

@[simp] theorem trMap_tgt (t : Tr K) : (trMap π ρ t).tgt = π t.tgt := rfl
@[simp] theorem trMap_act (t : Tr K) : (trMap π ρ t).act = ρ t.act := rfl
@[simp] theorem trMap_p (t : Tr K) : (trMap π ρ t).p = t.p := rfl

section
variable {n : Nat} {x x' : Array K}

theorem Transports.size (h : Transports π n x x') : x.size = n := h.1

theorem Transports.size_right (h : Transports π n x x') : x'.size = n := h.2.1

theorem Transports.getD (h : Transports π n x x') : ∀ s < n, x'.getD (π s) 0 = x.getD s 0 := h.2.2

end

section Row
omit [Field K] [LinearOrder K] [IsStrictOrderedRing K]

theorem mem_rel {r r' : List (Tr K)} (hp : r'.Perm (r.map (trMap π ρ))) {t' : Tr K} :
    t' ∈ r' ↔ ∃ t ∈ r, trMap π ρ t = t' := by
  rw [hp.mem_iff, List.mem_map]

theorem forall_mem_rel {r r' : List (Tr K)} (hp : r'.Perm (r.map (trMap π ρ))) {P : Tr K → Prop} :
    (∀ t' ∈ r', P t') ↔ ∀ t ∈ r, P (trMap π ρ t) := by
  simp only [hp.mem_iff, List.forall_mem_map]

theorem map_rel {β : Type} {F F' : Tr K → β} {r r' : List (Tr K)}
    (hp : r'.Perm (r.map (trMap π ρ))) (hF : ∀ t ∈ r, F' (trMap π ρ t) = F t) :
    (r'.map F').Perm (r.map F) := by
  refine (hp.map F').trans (List.Perm.of_eq ?_)
  rw [List.map_map]
  exact List.map_congr_left hF

theorem filter_rel {q q' : Tr K → Bool} {r r' : List (Tr K)}
    (hp : r'.Perm (r.map (trMap π ρ))) (hq : ∀ t ∈ r, q' (trMap π ρ t) = q t) :
    (r'.filter q').Perm ((r.filter q).map (trMap π ρ)) := by
  refine (hp.filter q').trans (List.Perm.of_eq ?_)
  rw [List.filter_map]
  exact congrArg _ (List.filter_congr hq)

theorem foldl_rel {β κ : Type} (op : β → κ → β) (hop : ∀ b k k', op (op b k) k' = op (op b k') k)
    {key key' : Tr K → κ} {r r' : List (Tr K)} (hp : r'.Perm (r.map (trMap π ρ)))
    (hk : ∀ t ∈ r, key' (trMap π ρ t) = key t) (b : β) :
    r'.foldl (fun b t => op b (key' t)) b = r.foldl (fun b t => op b (key t)) b := by
  rw [hp.foldl_eq' (fun t _ u _ b => hop b (key' t) (key' u)) b, List.foldl_map]
  exact List.foldl_ext _ _ _ (fun b t ht => by rw [hk t ht])

end Row

/-- `π` maps `0..n-1` injectively, hence bijectively, to itself -/
structure Renum (π : Nat → Nat) (n : Nat) : Prop where
  maps : ∀ s < n, π s < n
  inj : ∀ s < n, ∀ s' < n, π s = π s' → s = s'

theorem Presents.renum (h : Presents π ρ g g') : Renum π g.owners.size := ⟨h.maps, h.inj⟩

theorem Renum.surj {n : Nat} (h : Renum π n) : ∀ u < n, ∃ s < n, π s = u := by
  intro u hu
  let f : Fin n → Fin n := fun i => ⟨π i, h.maps i i.2⟩
  have hf : Function.Injective f := fun a b hab =>
    Fin.ext (h.inj a a.2 b b.2 (congrArg Fin.val hab))
  obtain ⟨i, hi⟩ := Finite.surjective_of_injective hf ⟨u, hu⟩
  exact ⟨i, i.2, congrArg Fin.val hi⟩

theorem Renum.forall_iff {n : Nat} (h : Renum π n) {P : Nat → Prop} :
    (∀ u < n, P u) ↔ ∀ s < n, P (π s) :=
  ⟨fun H s hs => H _ (h.maps s hs), fun H u hu => by
    obtain ⟨s, hs, rfl⟩ := h.surj u hu
    exact H s hs⟩

theorem Renum.invOn_spec {n : Nat} (h : Renum π n) {u : Nat} (hu : u < n) :
    invOn π n u < n ∧ π (invOn π n u) = u := by
  obtain ⟨s, hs, hsu⟩ := h.surj u hu
  unfold invOn
  cases hf : (List.range n).find? (fun s => π s = u) with
  | none =>
    rw [List.find?_eq_none] at hf
    exact absurd (decide_eq_true hsu) (hf s (List.mem_range.mpr hs))
  | some s' =>
    exact ⟨List.mem_range.mp (List.mem_of_find?_eq_some hf), by simpa using List.find?_some hf⟩

theorem Renum.invOn_left {n : Nat} (h : Renum π n) {s : Nat} (hs : s < n) :
    invOn π n (π s) = s :=
  h.inj _ (h.invOn_spec (h.maps s hs)).1 _ hs (h.invOn_spec (h.maps s hs)).2

theorem getD_ofFn {n : Nat} (f : Fin n → K) (i : Nat) :
    (Array.ofFn f).getD i 0 = if h : i < n then f ⟨i, h⟩ else 0 := by
  by_cases h : i < n <;> simp [Array.getD, h]

theorem transports_pull {n : Nat} {y' : Array K} (hy : y'.size = n) :
    Transports π n (pull π n y') y' := by
  refine ⟨Array.size_ofFn, hy, fun s hs => ?_⟩
  rw [pull, getD_ofFn, dif_pos hs]

theorem Renum.transports_push {n : Nat} (h : Renum π n) {y : Array K} (hy : y.size = n) :
    Transports π n y (push π n y) := by
  refine ⟨hy, Array.size_ofFn, fun s hs => ?_⟩
  rw [push, getD_ofFn, dif_pos (h.maps s hs)]
  exact congrArg (y.getD · 0) (h.invOn_left hs)

theorem Presents.tgtOk (h : Presents π ρ g g') (hr : TgtOk g) : TgtOk g' := by
  refine ⟨by rw [h.n_tl, h.n_owners, hr.1], ?_⟩
  rw [h.n_owners]
  exact h.renum.forall_iff.mpr fun s hs =>
    (forall_mem_rel (h.rows s hs)).mpr fun t ht => h.maps _ (hr.2 s hs t ht)

/-- the row `r'` read against the vector `x'` re-presents the row `r` read against `x`: it is a
permutation of the renamed / renumbered row, and the vectors agree on the targets -/
def RowRel (π : Nat → Nat) (ρ : String → String) (x x' : Array K) (r r' : List (Tr K)) : Prop :=
  r'.Perm (r.map (trMap π ρ)) ∧ ∀ t ∈ r, x'.getD (π t.tgt) 0 = x.getD t.tgt 0

/-- `TgtOk` is what makes vectors that agree along `π` agree on the targets -/
theorem Presents.rowRel (h : Presents π ρ g g') (hr : TgtOk g) {x x' : Array K}
    (hx : ∀ s < g.owners.size, x'.getD (π s) 0 = x.getD s 0) {s : Nat} (hs : s < g.owners.size) :
    RowRel π ρ x x' (g.tl.getD s []) (g'.tl.getD (π s) []) :=
  ⟨h.rows s hs, fun t ht => hx _ (hr.2 s hs t ht)⟩

theorem maxOver_rel {x x' : Array K} {r r' : List (Tr K)} (h : RowRel π ρ x x' r r') (m : K) :
    maxOver x' r' m = maxOver x r m :=
  foldl_rel max max_right_comm h.1 h.2 m

theorem minOver_rel {x x' : Array K} {r r' : List (Tr K)} (h : RowRel π ρ x x' r r') (m : K) :
    minOver x' r' m = minOver x r m :=
  foldl_rel min min_right_comm h.1 h.2 m

/-- the weighted SUM over a permuted list is equal in a field: this is where exact arithmetic is
used -/
theorem sumOver_rel {x x' : Array K} {r r' : List (Tr K)} (h : RowRel π ρ x x' r r') :
    sumOver x' r' = sumOver x r :=
  (map_rel h.1 (fun t ht => by rw [trMap_tgt, trMap_p, h.2 t ht])).sum_eq

theorem stepReach_rel {o o' : Array Owner} {tl tl' : Array (List (Tr K))} {x x' : Array K} {s s' : Nat}
    (ho : o'.getD s' .prob = o.getD s .prob)
    (h : RowRel π ρ x x' (tl.getD s []) (tl'.getD s' [])) :
    stepReach o' tl' x' s' = stepReach o tl x s := by
  cases hog : o.getD s .prob with
  | p1 => rw [stepReach_p1 _ _ _ _ hog, stepReach_p1 _ _ _ _ (ho.trans hog), maxOver_rel h]
  | p2 => rw [stepReach_p2 _ _ _ _ hog, stepReach_p2 _ _ _ _ (ho.trans hog), minOver_rel h]
  | prob =>
    rw [stepReach_prob _ _ _ _ hog, stepReach_prob _ _ _ _ (ho.trans hog), sumOver_rel h]

theorem bell_eq (h : Presents π ρ g g') (hr : TgtOk g) {x x' : Array K}
    (hx : ∀ s < g.owners.size, x'.getD (π s) 0 = x.getD s 0) {s : Nat}
    (hs : s < g.owners.size) :
    C01.Bell g' x' (π s) = C01.Bell g x s := by
  unfold C01.Bell
  rw [show g'.finals.contains (π s) = g.finals.contains s from
    Bool.eq_iff_iff.mpr (by simp only [List.contains_iff_mem, h.finals s hs]),
    stepReach_rel (h.owners s hs) (h.rowRel hr hx hs)]

theorem preFixed_iff (h : Presents π ρ g g') (hr : TgtOk g) {y y' : Array K}
    (ht : Transports π g.owners.size y y') : C01.PreFixed g' y' ↔ C01.PreFixed g y := by
  unfold C01.PreFixed
  rw [h.n_owners]
  refine and_congr (by rw [ht.size, ht.size_right]) (and_congr ?_ ?_) <;>
    refine Iff.trans h.renum.forall_iff (forall₂_congr fun s hs => ?_)
  · rw [ht.getD s hs]
  · rw [ht.getD s hs, bell_eq h hr ht.getD hs]

theorem isValue_iff (h : Presents π ρ g g') (hr : TgtOk g) {v v' : Array K}
    (ht : Transports π g.owners.size v v') : C01.IsValue g' v' ↔ C01.IsValue g v := by
  unfold C01.IsValue
  rw [h.n_owners]
  -- a pre-fixed point of either game is moved to the other by `push` / `pull`
  refine and_congr (preFixed_iff h hr ht) ⟨fun H y hy s hs => ?_, fun H y' hy' => ?_⟩
  · have hty := h.renum.transports_push hy.1
    rw [← ht.getD s hs, ← hty.getD s hs]
    exact H _ ((preFixed_iff h hr hty).mpr hy) _ (h.maps s hs)
  · have hty := transports_pull (π := π) (hy'.1.trans h.n_owners)
    refine h.renum.forall_iff.mpr fun s hs => ?_
    rw [ht.getD s hs, hty.getD s hs]
    exact H _ ((preFixed_iff h hr hty).mp hy') s hs

theorem Presents.wf (h : Presents π ρ g g') (hwf : C01.WF g) : C01.WF g' := by
  have hr := tgtOk_of_wf hwf
  have hr' := h.tgtOk hr
  refine ⟨hr'.1, hr'.2, fun u hu ho => ?_⟩
  rw [h.n_owners] at hu
  obtain ⟨s, hs, rfl⟩ := h.renum.surj u hu
  rw [h.owners s hs] at ho
  obtain ⟨h1, h2⟩ := hwf.2.2 s hs ho
  exact ⟨(forall_mem_rel (h.rows s hs)).mpr h1,
    (map_rel (h.rows s hs) fun _ _ => rfl).sum_eq.trans h2⟩

theorem edge_lt (hr : TgtOk g) {u v : Nat} (hu : u < g.owners.size)
    (he : C07.Edge (targets g) u v) : v < g.owners.size := by
  obtain ⟨t, ht, rfl⟩ := (C01.edge_iff g u v).mp he
  exact hr.2 u hu t ht

theorem reach_lt (hr : TgtOk g) {u v : Nat} (hu : u < g.owners.size)
    (he : C07.Reach (targets g) u v) : v < g.owners.size := by
  induction he with
  | refl => exact hu
  | tail _ hbc ih => exact edge_lt hr ih hbc

theorem edge_push (h : Presents π ρ g g') {s t : Nat} (hs : s < g.owners.size)
    (he : C07.Edge (targets g) s t) : C07.Edge (targets g') (π s) (π t) := by
  obtain ⟨tr, htr, rfl⟩ := (C01.edge_iff g s t).mp he
  exact (C01.edge_iff g' _ _).mpr ⟨trMap π ρ tr, (mem_rel (h.rows s hs)).mpr ⟨tr, htr, rfl⟩, rfl⟩

theorem edge_pull (h : Presents π ρ g g') {s w : Nat} (hs : s < g.owners.size)
    (he : C07.Edge (targets g') (π s) w) : ∃ t, w = π t ∧ C07.Edge (targets g) s t := by
  obtain ⟨tr', htr', rfl⟩ := (C01.edge_iff g' _ _).mp he
  obtain ⟨tr, htr, rfl⟩ := (mem_rel (h.rows s hs)).mp htr'
  exact ⟨tr.tgt, rfl, (C01.edge_iff g s _).mpr ⟨tr, htr, rfl⟩⟩

theorem reach_push (h : Presents π ρ g g') (hr : TgtOk g) {s t : Nat} (hs : s < g.owners.size)
    (he : C07.Reach (targets g) s t) : C07.Reach (targets g') (π s) (π t) := by
  induction he with
  | refl => exact Relation.ReflTransGen.refl
  | tail hab hbc ih => exact Relation.ReflTransGen.tail ih (edge_push h (reach_lt hr hs hab) hbc)

theorem reach_pull (h : Presents π ρ g g') (hr : TgtOk g) {s w : Nat} (hs : s < g.owners.size)
    (he : C07.Reach (targets g') (π s) w) :
    ∃ t < g.owners.size, w = π t ∧ C07.Reach (targets g) s t := by
  induction he with
  | refl => exact ⟨s, hs, rfl, Relation.ReflTransGen.refl⟩
  | tail _ hbc ih =>
    obtain ⟨b, hb, rfl, hsb⟩ := ih
    obtain ⟨t, rfl, hbt⟩ := edge_pull h hb hbc
    exact ⟨t, edge_lt hr hb hbt, rfl, Relation.ReflTransGen.tail hsb hbt⟩

/-- both players at once: `R` is `≤` for the maximiser and `≥` for the minimiser -/
theorem optActs_image (R : K → K → Prop) {x x' : Array K} {r r' : List (Tr K)}
    (h : RowRel π ρ x x' r r') :
    {b | ∃ t ∈ r', t.act = b ∧ ∀ u ∈ r', R (x'.getD u.tgt 0) (x'.getD t.tgt 0)} =
      ρ '' {a | ∃ t ∈ r, t.act = a ∧ ∀ u ∈ r, R (x.getD u.tgt 0) (x.getD t.tgt 0)} := by
  obtain ⟨hp, hv⟩ := h
  have hall : ∀ t ∈ r, (∀ u ∈ r', R (x'.getD u.tgt 0) (x'.getD (π t.tgt) 0)) ↔
      ∀ u ∈ r, R (x.getD u.tgt 0) (x.getD t.tgt 0) := fun t ht => by
    rw [forall_mem_rel hp, hv t ht]
    exact forall₂_congr fun u hu => by rw [trMap_tgt, hv u hu]
  ext b
  constructor
  · rintro ⟨t', ht', rfl, hopt⟩
    obtain ⟨t, ht, rfl⟩ := (mem_rel hp).mp ht'
    exact ⟨t.act, ⟨t, ht, rfl, (hall t ht).mp hopt⟩, rfl⟩
  · rintro ⟨a, ⟨t, ht, rfl, hopt⟩, rfl⟩
    exact ⟨trMap π ρ t, (mem_rel hp).mpr ⟨t, ht, rfl⟩, rfl, (hall t ht).mpr hopt⟩

theorem optActsMax_image (h : Presents π ρ g g') (hr : TgtOk g) {v v' : Array K}
    (hv : ∀ s < g.owners.size, v'.getD (π s) 0 = v.getD s 0) {s : Nat}
    (hs : s < g.owners.size) :
    OptActsMax g' v' (π s) = ρ '' OptActsMax g v s :=
  optActs_image (· ≤ ·) (h.rowRel hr hv hs)

theorem optActsMin_image (h : Presents π ρ g g') (hr : TgtOk g) {v v' : Array K}
    (hv : ∀ s < g.owners.size, v'.getD (π s) 0 = v.getD s 0) {s : Nat}
    (hs : s < g.owners.size) :
    OptActsMin g' v' (π s) = ρ '' OptActsMin g v s :=
  optActs_image (fun a b => b ≤ a) (h.rowRel hr hv hs)

theorem Presents.ρ_injective (h : Presents π ρ g g') : Function.Injective ρ :=
  fun a b hab => h.ρ_inj a b hab

theorem foldl_add_eq_sum (l : List K) (a : K) : l.foldl (· + ·) a = a + l.sum :=
  CR.foldl_add_eq_sum l a

theorem live_rel {reach reach' : Array K} {r r' : List (Tr K)}
    (h : RowRel π ρ reach reach' r r') :
    (r'.filter (fun t => !dead reach' t)).Perm
      ((r.filter (fun t => !dead reach t)).map (trMap π ρ)) :=
  filter_rel h.1 (fun t ht => by unfold dead; rw [trMap_tgt, h.2 t ht])

theorem removedMass_eq {reach reach' : Array K} {r' r : List (Tr K)}
    (hp : r'.Perm (r.map (trMap π ρ)))
    (hd : ∀ t ∈ r, dead reach' (trMap π ρ t) = dead reach t) :
    ((r'.filter (dead reach')).map (·.p)).sum = ((r.filter (dead reach)).map (·.p)).sum :=
  (map_rel (filter_rel hp hd) (fun _ _ => rfl)).sum_eq

/-- Python's `sum` adds the surviving probabilities left to right; in a field the order does not
matter -/
theorem keptMass_rel {reach reach' : Array K} {r r' : List (Tr K)}
    (h : RowRel π ρ reach reach' r r') :
    keptMass reach' r' = keptMass reach r := by
  rw [keptMass_eq_sum, keptMass_eq_sum]
  exact (map_rel (live_rel h) (fun _ _ => rfl)).sum_eq

theorem condProb_rel {reach reach' : Array K} {r r' : List (Tr K)}
    (h : RowRel π ρ reach reach' r r') :
    (condProb reach' r').Perm ((condProb reach r).map (trMap π ρ)) := by
  have hlive := live_rel h
  -- `condProb` keeps the row when no transition is dead (a test on lengths, equal on both sides), else
  -- divides the live ones by `keptMass`
  unfold condProb
  simp only [hlive.length_eq, h.1.length_eq, List.length_map, keptMass_rel h]
  split
  · exact h.1
  · rw [List.map_map]
    exact map_rel hlive (fun _ _ => rfl)

/-- the conditioned row of `π s` in `g'` is a permutation of the renamed / renumbered conditioned row
of `s` in `g` (item 6 of the header of `Props/C13.lean`) -/
theorem condRow_perm (h : Presents π ρ g g') (hr : TgtOk g) {reach reach' : Array K}
    (hx : ∀ s < g.owners.size, reach'.getD (π s) 0 = reach.getD s 0)
    {st st' : Array Strat} (hst : StratRel π ρ g.owners.size st st') {s : Nat}
    (hs : s < g.owners.size) :
    (condRow g' st' reach' (π s)).Perm ((condRow g st reach s).map (trMap π ρ)) := by
  have hrow := h.rowRel hr hx hs
  have ho := h.owners s hs
  cases hog : g.owners.getD s .prob with
  | p2 => rw [condRow_p2 hog, condRow_p2 (ho.trans hog)]; exact hrow.1
  | p1 =>
    rw [condRow_p1 hog, condRow_p1 (ho.trans hog)]
    exact live_rel ⟨filter_rel hrow.1 (fun t _ => hst s hs t.act),
      fun t ht => hrow.2 t (List.mem_of_mem_filter ht)⟩
  | prob => rw [condRow_prob hog, condRow_prob (ho.trans hog)]; exact condProb_rel hrow

theorem rkey_rel (rnd : K → Int) {x x' : Array K} {r r' : List (Tr K)}
    (h : RowRel π ρ x x' r r') : ∀ t ∈ r, rkey rnd x' (trMap π ρ t) = rkey rnd x t :=
  fun t ht => congrArg rnd (h.2 t ht)

theorem runMax_rel (rnd : K → Int) {x x' : Array K} {r r' : List (Tr K)}
    (h : RowRel π ρ x x' r r') (m : Int) :
    runMax (rkey rnd x') m r' = runMax (rkey rnd x) m r :=
  foldl_rel max max_right_comm h.1 (rkey_rel rnd h) m

theorem runMin_rel (rnd : K → Int) {x x' : Array K} {r r' : List (Tr K)}
    (h : RowRel π ρ x x' r r') (m : Int) :
    runMin (rkey rnd x') m r' = runMin (rkey rnd x) m r :=
  foldl_rel min min_right_comm h.1 (rkey_rel rnd h) m

/-- the actions whose rounded successor value is `m`: what `bestStrat` and `worstStratFrom` list
once `m` is the running maximum / minimum -/
theorem keyed_perm (rnd : K → Int) {x x' : Array K} {r r' : List (Tr K)}
    (h : RowRel π ρ x x' r r') (m : Int) :
    ((r'.filter (fun t => rkey rnd x' t == m)).map (·.act)).Perm
      (((r.filter (fun t => rkey rnd x t == m)).map (·.act)).map ρ) := by
  rw [List.map_map]
  exact map_rel (filter_rel h.1 (fun t ht => by simp only [rkey_rel rnd h t ht]))
    (fun _ _ => rfl)

theorem bestStrat_perm (rnd : K → Int) {x x' : Array K} {r r' : List (Tr K)}
    (h : RowRel π ρ x x' r r') : (bestStrat rnd x' r').Perm ((bestStrat rnd x r).map ρ) := by
  rw [bestStrat_eq, bestStrat_eq, runMax_rel rnd h]
  exact keyed_perm rnd h _

theorem worstStratFrom_perm (rnd : K → Int) (start : Int) {x x' : Array K} {r r' : List (Tr K)}
    (h : RowRel π ρ x x' r r') :
    (worstStratFrom rnd start x' r').Perm ((worstStratFrom rnd start x r).map ρ) := by
  rw [worstStratFrom_eq, worstStratFrom_eq, runMin_rel rnd h]
  exact keyed_perm rnd h _

theorem stratArray_perm {o o' : Array Owner} {f f' k k' : Nat → List String} {s s' : Nat}
    (ho : o'.getD s' .prob = o.getD s .prob) (hf : (f' s').Perm ((f s).map ρ))
    (hk : (k' s').Perm ((k s).map ρ)) :
    StratPerm ρ ((stratArray o f k).getD s none) ((stratArray o' f' k').getD s' none) := by
  rw [stratArray_getD, stratArray_getD, ho]
  cases o.getD s .prob with
  | p1 => exact hf
  | p2 => exact hk
  | prob => trivial

theorem reachStrategies_perm (rnd : K → Int) {o o' : Array Owner} {tl tl' : Array (List (Tr K))}
    {x x' : Array K} {s s' : Nat} (ho : o'.getD s' .prob = o.getD s .prob)
    (h : RowRel π ρ x x' (tl.getD s []) (tl'.getD s' [])) :
    StratPerm ρ ((reachStrategies rnd o tl x).getD s none)
      ((reachStrategies rnd o' tl' x').getD s' none) :=
  stratArray_perm ho (bestStrat_perm rnd h) (worstStratFrom_perm rnd _ h)

theorem stratPerm_contains (hρ : Function.Injective ρ) {st st' : Strat} (h : StratPerm ρ st st')
    (a : String) : (st'.getD []).contains (ρ a) = (st.getD []).contains a := by
  cases st with
  | none => cases st' with
    | none => rfl
    | some l' => exact absurd h id
  | some l => cases st' with
    | none => exact absurd h id
    | some l' =>
      have hp : l'.Perm (l.map ρ) := h
      rw [Bool.eq_iff_iff]
      simp only [Option.getD_some, List.contains_iff_mem, hp.mem_iff]
      exact List.mem_map_of_injective hρ

theorem stratPerm_some {l : List String} {st' : Strat} (h : StratPerm ρ (some l) st') :
    ∃ l', st' = some l' ∧ l'.Perm (l.map ρ) := by
  cases st' with
  | none => exact absurd h id
  | some l' => exact ⟨l', rfl, h⟩

theorem stratRel_of_perm (hρ : Function.Injective ρ) {n : Nat} {st st' : Array Strat}
    (h : ∀ s < n, StratPerm ρ (st.getD s none) (st'.getD (π s) none)) : StratRel π ρ n st st' :=
  fun s hs a => stratPerm_contains hρ (h s hs) a

end CR.Present
