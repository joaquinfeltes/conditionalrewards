/-
Conditioning on reachability (`prune_reachability`, `prune_paths`, `prune_states`) against its
specification `condRow`: the row of each state before the clearing of unreachable states.
`condition_row_cases` is the core of property C03 (`CR.Props.C03`): every row of the result is
`condRow`, or was emptied, is not Player 1's and cannot be reached from state 0 through `condRow`.
The `prune_states` loop ends within its fuel (`pruneStates_total`, `condition_total_of_prunePaths`).
Over an ordered field the probabilistic row is the rescaled live row (`condProb_field`,
`condProb_sum_one`, `condProb_pos_of_pos`) and `prune_paths` does not divide by zero on positive
rows (`prunePathsProb_pos`).
-/
import CR.Lemmas.Strat
import Mathlib.Logic.Relation
import Mathlib.Algebra.Order.Field.Basic
import Mathlib.Algebra.BigOperators.Group.List.Basic
import Mathlib.Algebra.Order.BigOperators.Group.List
import Mathlib.Tactic.Ring

namespace CR

section Spec
variable {α : Type} [Add α] [Div α] [BEq α] [OfNat α 0]

def dead (reach : Array α) (t : Tr α) : Bool := reach.getD t.tgt 0 == 0

/-- the total surviving probability, as Python's `sum(probability for probability, _ in
kept_states)` computes it: start from 0, add left to right -/
def keptMass (reach : Array α) (row : List (Tr α)) : α :=
  (row.filter (fun t => !dead reach t)).foldl (fun acc t => acc + t.p) 0

def condRow (g : Game α) (strat : Array Strat) (reach : Array α) (s : Nat) : List (Tr α) :=
  let row := g.tl.getD s []
  match g.owners.getD s .prob with
  | .p2 => row
  | .p1 => (row.filter (fun t => ((strat.getD s none).getD []).contains t.act)).filter
              (fun t => !dead reach t)
  | .prob =>
      let live := row.filter (fun t => !dead reach t)
      if live.length = row.length then row
      else live.map (fun t => { t with p := t.p / (live.foldl (fun acc t => acc + t.p) 0) })

/-- the probabilistic branch of `condRow` -/
def condProb (reach : Array α) (row : List (Tr α)) : List (Tr α) :=
  let live := row.filter (fun t => !dead reach t)
  if live.length = row.length then row
  else live.map (fun t => { t with p := t.p / keptMass reach row })

omit [Add α] [Div α] in
theorem mem_live {reach : Array α} {row : List (Tr α)} {t : Tr α} :
    t ∈ row.filter (fun t => !dead reach t) ↔ t ∈ row ∧ dead reach t = false := by
  rw [List.mem_filter, Bool.not_eq_true']

theorem condRow_p2 {g : Game α} {strat : Array Strat} {reach : Array α} {s : Nat}
    (ho : g.owners.getD s .prob = .p2) : condRow g strat reach s = g.tl.getD s [] := by
  unfold condRow; rw [ho]

theorem condRow_p1 {g : Game α} {strat : Array Strat} {reach : Array α} {s : Nat}
    (ho : g.owners.getD s .prob = .p1) :
    condRow g strat reach s =
      ((g.tl.getD s []).filter (fun t => ((strat.getD s none).getD []).contains t.act)).filter
        (fun t => !dead reach t) := by
  unfold condRow; rw [ho]

theorem condRow_prob {g : Game α} {strat : Array Strat} {reach : Array α} {s : Nat}
    (ho : g.owners.getD s .prob = .prob) :
    condRow g strat reach s = condProb reach (g.tl.getD s []) := by
  unfold condRow; rw [ho]; rfl

theorem condRow_of_ge {g : Game α} {strat : Array Strat} {reach : Array α} {s : Nat}
    (hs : g.tl.size ≤ s) : condRow g strat reach s = [] := by
  unfold condRow
  rw [getD_of_size_le _ _ _ hs]
  cases g.owners.getD s .prob <;> rfl

theorem condProb_cases (reach : Array α) (row : List (Tr α)) :
    (condProb reach row = row ∧ row.filter (fun t => !dead reach t) = row) ∨
      ((row.filter (fun t => !dead reach t)).length ≠ row.length ∧ condProb reach row =
        (row.filter (fun t => !dead reach t)).map
          (fun t => { t with p := t.p / keptMass reach row })) := by
  unfold condProb
  by_cases hl : (row.filter (fun t => !dead reach t)).length = row.length
  · rw [if_pos hl]
    exact .inl ⟨rfl, List.filter_eq_self.mpr (List.length_filter_eq_length_iff.mp hl)⟩
  · rw [if_neg hl]
    exact .inr ⟨hl, rfl⟩

theorem prunePathsProb_eq (reach : Array α) (row : List (Tr α)) :
    prunePathsProb reach row =
      if (row.filter (fun t => !dead reach t)).length ≠ row.length ∧
          (!(row.filter (fun t => !dead reach t)).isEmpty && (keptMass reach row == 0)) = true
      then .error .zeroDiv else .ok (condProb reach row) := by
  unfold prunePathsProb condProb
  show (if (row.filter (fun t => !dead reach t)).length ≠ row.length then _ else _) = _
  by_cases hl : (row.filter (fun t => !dead reach t)).length = row.length
  · rw [if_neg (not_not_intro hl), if_neg (fun h => h.1 hl), if_pos hl]
  · rw [if_pos hl, if_neg hl]
    by_cases hz : (!(row.filter (fun t => !dead reach t)).isEmpty
        && (keptMass reach row == 0)) = true
    · rw [if_pos (And.intro hl hz)]; exact if_pos hz
    · rw [if_neg (fun h : _ ∧ _ => hz h.2)]; exact if_neg hz

theorem prunePathsProb_ok {reach : Array α} {row out : List (Tr α)}
    (h : prunePathsProb reach row = .ok out) : out = condProb reach row := by
  rw [prunePathsProb_eq] at h
  split at h
  · cases h
  · exact (Except.ok.inj h).symm

end Spec

section
variable {α : Type} [Add α] [Sub α] [Div α] [BEq α] [OfNat α 0] [OfNat α 1]

set_option linter.unusedSectionVars false in
theorem keptMass_def (reach : Array α) (row : List (Tr α)) :
    keptMass reach row
      = (row.filter (fun t => !dead reach t)).foldl (fun acc t => acc + t.p) 0 := rfl

end

section Rounds
variable {α : Type}

theorem mem_roundTargets {nodes : Array (List (Tr α))} {s : Nat} :
    s ∈ roundTargets nodes ↔ s = 0 ∨ ∃ u, ∃ t ∈ nodes.getD u [], t.tgt = s := by
  unfold roundTargets
  rw [List.mem_cons, List.mem_flatMap]
  refine or_congr_right ⟨?_, ?_⟩
  · rintro ⟨row, hrow, hs⟩
    obtain ⟨u, hu, rfl⟩ := Array.getElem_of_mem (Array.mem_toList_iff.mp hrow)
    obtain ⟨t, ht, rfl⟩ := List.mem_map.mp hs
    exact ⟨u, t, by rw [← Array.getElem_eq_getD (h := hu)]; exact ht, rfl⟩
  · rintro ⟨u, t, ht, rfl⟩
    have hu := lt_size_of_mem_getD ht
    rw [← Array.getElem_eq_getD (h := hu)] at ht
    exact ⟨nodes[u], Array.mem_toList_iff.mpr (Array.getElem_mem hu), List.mem_map.mpr ⟨t, ht, rfl⟩⟩

theorem cleared_iff {owners : Array Owner} {nodes : Array (List (Tr α))} {s : Nat} :
    cleared owners nodes s = true ↔ owners.getD s .prob ≠ .p1 ∧ s ∉ roundTargets nodes := by
  unfold cleared
  simp

theorem deadP1_iff {owners : Array Owner} {nodes : Array (List (Tr α))} {s : Nat} :
    deadP1 owners nodes s = true ↔
      owners.getD s .prob = .p1 ∧ nodes.getD s [] = [] ∧ s ∉ roundTargets nodes := by
  unfold deadP1
  simp [and_assoc]

theorem roundTargets_round_subset {owners : Array Owner} {nodes : Array (List (Tr α))} {s : Nat}
    (h : s ∈ roundTargets (pruneStatesRound owners nodes).1) : s ∈ roundTargets nodes := by
  rw [mem_roundTargets] at h ⊢
  refine h.imp_right fun ⟨u, t, ht, hs⟩ => ⟨u, t, ?_, hs⟩
  rw [pruneStatesRound_getD] at ht
  split at ht
  · cases ht
  · exact ht

/-- the invariant of the `prune_states` loop, `R` being the rows it starts from -/
def CondRows (R : Nat → List (Tr α)) (owners : Array Owner) (nodes : Array (List (Tr α))) : Prop :=
  ∀ s, nodes.getD s [] = R s ∨
    (nodes.getD s [] = [] ∧ owners.getD s .prob ≠ .p1 ∧
      ¬ Relation.ReflTransGen (fun u v => ∃ t ∈ R u, t.tgt = v) 0 s)

theorem round_inv {R : Nat → List (Tr α)} {owners : Array Owner} {nodes : Array (List (Tr α))}
    (h : CondRows R owners nodes) : CondRows R owners (pruneStatesRound owners nodes).1 := by
  intro s
  rw [pruneStatesRound_getD]
  by_cases hc : cleared owners nodes s = true
  · rw [if_pos hc]
    obtain ⟨hown, hnot⟩ := cleared_iff.mp hc
    refine .inr ⟨rfl, hown, fun hreach => hnot (mem_roundTargets.mpr ?_)⟩
    -- a path from 0 to `s` is empty, or its last edge starts at a reachable, hence intact, row
    rcases Relation.ReflTransGen.cases_tail hreach with h0 | ⟨u, hu, t, ht, hts⟩
    · exact .inl h0
    · rcases h u with hi | ⟨_, _, hnr⟩
      · exact .inr ⟨u, t, hi ▸ ht, hts⟩
      · exact absurd hu hnr
  · rw [if_neg hc]; exact h s

theorem pruneStates_inv {R : Nat → List (Tr α)} {owners : Array Owner} (fuel : Nat)
    (prev : List Nat) (nodes out : Array (List (Tr α))) (hinv : CondRows R owners nodes)
    (h : pruneStates owners fuel prev nodes = .ok out) :
    CondRows R owners out ∧ out.size = nodes.size :=
  pruneStates_induct (P := fun a => CondRows R owners a ∧ a.size = nodes.size)
    (fun _ ha => ⟨round_inv ha.1, (pruneStatesRound_size _ _).trans ha.2⟩) fuel prev nodes out ⟨hinv, rfl⟩ h

/-! Termination within the fuel.  `(pruneStatesRound owners nodes).2` is the list of cleared and dead
states (the "round set" of the lemma names).  It only grows from round to round
(`round_set_mono`), inside `range n`; the loop stops when it did not grow, so the number of states
not yet on it bounds the number of rounds still to come. -/

theorem mem_round_set {owners : Array Owner} {nodes : Array (List (Tr α))} {s : Nat} :
    s ∈ (pruneStatesRound owners nodes).2 ↔
      s < nodes.size ∧ (cleared owners nodes s = true ∨ deadP1 owners nodes s = true) := by
  rw [pruneStatesRound_eq]
  simp only [List.mem_filter, List.mem_range, Bool.or_eq_true]

theorem round_set_mono {owners : Array Owner} {nodes : Array (List (Tr α))} {s : Nat}
    (h : s ∈ (pruneStatesRound owners nodes).2) :
    s ∈ (pruneStatesRound owners (pruneStatesRound owners nodes).1).2 := by
  rw [mem_round_set] at h ⊢
  obtain ⟨hs, hc⟩ := h
  refine ⟨by rw [pruneStatesRound_size]; exact hs, hc.imp (fun hc => ?_) (fun hd => ?_)⟩
  · obtain ⟨ho, ht⟩ := cleared_iff.mp hc
    exact cleared_iff.mpr ⟨ho, fun h' => ht (roundTargets_round_subset h')⟩
  · obtain ⟨ho, he, ht⟩ := deadP1_iff.mp hd
    refine deadP1_iff.mpr ⟨ho, ?_, fun h' => ht (roundTargets_round_subset h')⟩
    rw [pruneStatesRound_getD, he, ite_self]

theorem sameSet_iff (a b : List Nat) :
    sameSet a b = true ↔ (∀ x ∈ a, x ∈ b) ∧ (∀ x ∈ b, x ∈ a) := by
  unfold sameSet
  simp only [Bool.and_eq_true, List.all_eq_true, List.contains_iff_mem]

theorem not_sameSet {a b : List Nat} (hba : ∀ s ∈ b, s ∈ a) (h : ¬ sameSet a b = true) :
    ∃ s ∈ a, s ∉ b := by
  rw [sameSet_iff] at h
  by_contra hcon
  exact h ⟨fun s hs => Classical.byContradiction fun hsb => hcon ⟨s, hs, hsb⟩, hba⟩

theorem length_filter_not_mem_lt {l a b : List Nat} (hab : ∀ x ∈ a, x ∈ b) {x : Nat} (hx : x ∈ l)
    (hxb : x ∈ b) (hxa : x ∉ a) :
    (l.filter (fun s => !b.contains s)).length < (l.filter (fun s => !a.contains s)).length := by
  have hsub : l.filter (fun s => !b.contains s) =
      (l.filter (fun s => !a.contains s)).filter (fun s => !b.contains s) := by
    rw [List.filter_filter]
    refine List.filter_congr fun y _ => ?_
    cases hb : b.contains y
    · cases ha : a.contains y
      · rfl
      · rw [hab y (List.contains_iff_mem.mp ha) |> List.contains_iff_mem.mpr] at hb; cases hb
    · rfl
  rw [hsub]
  refine List.length_filter_lt_length_iff_exists.mpr ⟨x, List.mem_filter.mpr ⟨hx, ?_⟩, ?_⟩
  · rw [Bool.not_eq_true', ← Bool.not_eq_true, List.contains_iff_mem]; exact hxa
  · rw [Bool.not_eq_true, Bool.not_eq_false', List.contains_iff_mem]; exact hxb

theorem pruneStates_total {owners : Array Owner} :
    ∀ (fuel : Nat) (prev : List Nat) (nodes : Array (List (Tr α))),
      (∀ s ∈ prev, s ∈ (pruneStatesRound owners nodes).2) →
      ((List.range nodes.size).filter (fun s => !prev.contains s)).length < fuel →
      ∃ out, pruneStates owners fuel prev nodes = .ok out
  | 0, _, _, _, h => absurd h (Nat.not_lt_zero _)
  | fuel + 1, prev, nodes, hsub, hlt => by
    unfold pruneStates
    by_cases hs : sameSet (pruneStatesRound owners nodes).2 prev = true
    · rw [if_pos hs]; exact ⟨_, rfl⟩
    · rw [if_neg hs]
      obtain ⟨x, hx, hxp⟩ := not_sameSet hsub hs
      refine pruneStates_total fuel _ _ (fun s => round_set_mono) ?_
      rw [pruneStatesRound_size]
      exact Nat.lt_of_lt_of_le
        (length_filter_not_mem_lt hsub (List.mem_range.mpr (mem_round_set.mp hx).1) hx hxp)
        (Nat.le_of_lt_succ hlt)

end Rounds

section Condition
variable {α : Type} [Add α] [Div α] [BEq α] [OfNat α 0]

/-- what `check_game` guarantees about the two per-state lists -/
def Shape (g : Game α) : Prop := g.tl.size = g.owners.size

/-- edge relation of the conditioned graph (before the clearing of unreachable states) -/
def CondEdge (g : Game α) (strat : Array Strat) (reach : Array α) (u v : Nat) : Prop :=
  ∃ t ∈ condRow g strat reach u, t.tgt = v

theorem pruneRow_eq (g : Game α) (strat : Array Strat) (reach : Array α) (s : Nat) :
    pruneRow g.owners reach (pruneReachability g.owners strat g.tl) s =
      if g.owners.getD s .prob = .prob then prunePathsProb reach (g.tl.getD s [])
      else .ok (condRow g strat reach s) := by
  unfold pruneRow
  rw [pruneReachability_getD]
  cases ho : g.owners.getD s .prob with
  | prob => rfl
  | p1 => rw [if_neg (by decide), condRow_p1 ho]; rfl
  | p2 => rw [if_neg (by decide), condRow_p2 ho]

theorem prunePaths_ok_getD {g : Game α} {strat : Array Strat} {reach : Array α}
    {base : Array (List (Tr α))}
    (h : prunePaths g.owners reach (pruneReachability g.owners strat g.tl) = .ok base) :
    base.size = g.tl.size ∧ ∀ s, base.getD s [] = condRow g strat reach s := by
  obtain ⟨hsz, hrow⟩ := prunePaths_eq_ok.mp h
  rw [pruneReachability_size] at hsz hrow
  refine ⟨hsz, fun s => ?_⟩
  by_cases hs : s < g.tl.size
  · have h1 := hrow s hs
    rw [pruneRow_eq] at h1
    by_cases ho : g.owners.getD s .prob = .prob
    · rw [if_pos ho] at h1
      rw [condRow_prob ho]
      exact prunePathsProb_ok h1
    · rw [if_neg ho] at h1
      exact (Except.ok.inj h1).symm
  · rw [condRow_of_ge (Nat.le_of_not_lt hs),
      getD_of_size_le _ _ _ (hsz ▸ Nat.le_of_not_lt hs)]

theorem prunePaths_error_zeroDiv {g : Game α} {strat : Array Strat} {reach : Array α} {e : Err}
    (h : prunePaths g.owners reach (pruneReachability g.owners strat g.tl) = .error e) :
    e = .zeroDiv := by
  obtain ⟨s, _, _, hs⟩ := prunePaths_eq_error.mp h
  rw [pruneRow_eq] at hs
  by_cases ho : g.owners.getD s .prob = .prob
  · rw [if_pos ho, prunePathsProb_eq] at hs
    split at hs
    · exact (Except.error.inj hs).symm
    · cases hs
  · rw [if_neg ho] at hs
    cases hs

theorem condition_rows {g : Game α} {strat : Array Strat} {reach : Array α}
    {nodes : Array (List (Tr α))} (h : condition true g strat reach = .ok nodes) :
    nodes.size = g.tl.size ∧ CondRows (condRow g strat reach) g.owners nodes := by
  obtain ⟨base, hb, hp⟩ := condition_true_eq_ok.mp h
  obtain ⟨hsz, hrow⟩ := prunePaths_ok_getD hb
  obtain ⟨h1, h2⟩ := pruneStates_inv _ _ _ _ (fun s => Or.inl (hrow s)) hp
  exact ⟨h2.trans hsz, h1⟩

theorem condition_size {g : Game α} {strat : Array Strat} {reach : Array α}
    {nodes : Array (List (Tr α))} (h : condition true g strat reach = .ok nodes) :
    nodes.size = g.tl.size :=
  (condition_rows h).1

theorem condition_row_cases {g : Game α} {strat : Array Strat} {reach : Array α}
    {nodes : Array (List (Tr α))} (h : condition true g strat reach = .ok nodes) (s : Nat) :
    nodes.getD s [] = condRow g strat reach s ∨
      (nodes.getD s [] = [] ∧ g.owners.getD s .prob ≠ .p1 ∧
        ¬ Relation.ReflTransGen (CondEdge g strat reach) 0 s) :=
  (condition_rows h).2 s

/-- `prune_states` never clears a Player-1 state, so its row is known in both modes -/
theorem condition_getD_p1 {prune : Bool} {g : Game α} {strat : Array Strat} {reach : Array α}
    {nodes : Array (List (Tr α))} (h : condition prune g strat reach = .ok nodes) (s : Nat)
    (hp : g.owners.getD s .prob = .p1) :
    nodes.getD s [] =
      if prune then
        ((g.tl.getD s []).filter (fun t => ((strat.getD s none).getD []).contains t.act)).filter
          (fun t => !dead reach t)
      else (g.tl.getD s []).filter (fun t => ((strat.getD s none).getD []).contains t.act) := by
  cases prune with
  | false =>
    rw [condition_false_eq] at h
    cases h
    rw [pruneReachability_getD, hp]
    rfl
  | true =>
    rcases condition_row_cases h s with hrow | ⟨_, hne, _⟩
    · exact hrow.trans (condRow_p1 hp)
    · exact absurd hp hne

theorem condRow_no_dead {g : Game α} {strat : Array Strat} {reach : Array α} {s : Nat}
    (ho : g.owners.getD s .prob ≠ .p2) {t : Tr α} (ht : t ∈ condRow g strat reach s) :
    dead reach t = false := by
  cases hown : g.owners.getD s .prob with
  | p2 => exact absurd hown ho
  | p1 =>
    rw [condRow_p1 hown] at ht
    exact (mem_live.mp ht).2
  | prob =>
    rw [condRow_prob hown] at ht
    rcases condProb_cases reach (g.tl.getD s []) with ⟨e, hall⟩ | ⟨_, e⟩
    · rw [e, ← hall] at ht
      exact (mem_live.mp ht).2
    · rw [e] at ht
      obtain ⟨t', ht', rfl⟩ := List.mem_map.mp ht
      exact (mem_live.mp ht').2

theorem condRow_keeps_live {g : Game α} {strat : Array Strat} {reach : Array α} {s : Nat}
    {t : Tr α} (ht : t ∈ g.tl.getD s []) (hlive : dead reach t = false)
    (hperm : g.owners.getD s .prob = .p1 →
      ((strat.getD s none).getD []).contains t.act = true) :
    ∃ t' ∈ condRow g strat reach s, t'.act = t.act ∧ t'.tgt = t.tgt := by
  cases ho : g.owners.getD s .prob with
  | p2 => rw [condRow_p2 ho]; exact ⟨t, ht, rfl, rfl⟩
  | p1 =>
    rw [condRow_p1 ho]
    exact ⟨t, mem_live.mpr ⟨List.mem_filter.mpr ⟨ht, hperm ho⟩, hlive⟩, rfl, rfl⟩
  | prob =>
    rw [condRow_prob ho]
    rcases condProb_cases reach (g.tl.getD s []) with ⟨e, _⟩ | ⟨_, e⟩
    · rw [e]; exact ⟨t, ht, rfl, rfl⟩
    · rw [e]; exact ⟨_, List.mem_map.mpr ⟨t, mem_live.mpr ⟨ht, hlive⟩, rfl⟩, rfl, rfl⟩

theorem condRow_tgt_mem {g : Game α} {strat : Array Strat} {reach : Array α} {s : Nat} {t : Tr α}
    (ht : t ∈ condRow g strat reach s) : ∃ t' ∈ g.tl.getD s [], t'.tgt = t.tgt := by
  cases ho : g.owners.getD s .prob with
  | p2 => rw [condRow_p2 ho] at ht; exact ⟨t, ht, rfl⟩
  | p1 =>
    rw [condRow_p1 ho] at ht
    exact ⟨t, (List.mem_filter.mp (mem_live.mp ht).1).1, rfl⟩
  | prob =>
    rw [condRow_prob ho] at ht
    rcases condProb_cases reach (g.tl.getD s []) with ⟨e, _⟩ | ⟨_, e⟩
    · exact ⟨t, e ▸ ht, rfl⟩
    · rw [e] at ht
      obtain ⟨u, hu, rfl⟩ := List.mem_map.mp ht
      exact ⟨u, (mem_live.mp hu).1, rfl⟩

theorem condition_tgt_mem {prune : Bool} {g : Game α} {strat : Array Strat} {reach : Array α}
    {nodes : Array (List (Tr α))} (h : condition prune g strat reach = .ok nodes) :
    ∀ s, ∀ t ∈ nodes.getD s [], ∃ t' ∈ g.tl.getD s [], t'.tgt = t.tgt := by
  intro s t ht
  cases prune with
  | false =>
    rw [condition_false_eq] at h
    cases h
    rw [pruneReachability_getD] at ht
    cases ho : g.owners.getD s .prob with
    | prob => rw [ho] at ht; exact ⟨t, ht, rfl⟩
    | p1 => rw [ho] at ht; exact ⟨t, (List.mem_filter.mp ht).1, rfl⟩
    | p2 => rw [ho] at ht; exact ⟨t, ht, rfl⟩
  | true =>
    rcases condition_row_cases h s with hrow | ⟨hnil, _, _⟩
    · exact condRow_tgt_mem (hrow ▸ ht)
    · rw [hnil] at ht; exact absurd ht List.not_mem_nil

/-- `prune_states` never runs out of its fuel `n + 2`: the list of cleared states is empty before
the first round, so at most `n` rounds enlarge it -/
theorem condition_total_of_prunePaths {g : Game α} (hg : Shape g) {strat : Array Strat}
    {reach : Array α} {base : Array (List (Tr α))}
    (hb : prunePaths g.owners reach (pruneReachability g.owners strat g.tl) = .ok base) :
    ∃ nodes, condition true g strat reach = .ok nodes := by
  rw [condition_true_eq, hb]
  refine pruneStates_total _ _ _ (fun _ h => nomatch h) ?_
  calc ((List.range base.size).filter _).length
      ≤ (List.range base.size).length := List.length_filter_le _ _
    _ = g.owners.size := List.length_range.trans ((prunePaths_ok_getD hb).1.trans hg)
    _ < g.owners.size + 2 := Nat.lt_add_of_pos_right (by decide)

end Condition

section OrderedField
variable {K : Type} [Field K] [LinearOrder K] [IsStrictOrderedRing K]

/-- every probabilistic row is a positive distribution (the hypothesis of C03's parts D and E, the
last conjunct of `C06.WFull`).  Property theorems spell this out; pass `h.probRows`
(`C06.WFull.probRows`). -/
def ProbRowsOK (g : Game K) : Prop :=
  ∀ s, s < g.owners.size → g.owners.getD s .prob = .prob →
    (∀ t ∈ g.tl.getD s [], 0 < t.p) ∧ ((g.tl.getD s []).map (·.p)).sum = 1

set_option linter.unusedSectionVars false in
theorem foldl_add_eq_sum (l : List K) (a : K) : l.foldl (· + ·) a = a + l.sum := by
  induction l generalizing a with
  | nil => simp
  | cons x l ih => rw [List.foldl_cons, ih, List.sum_cons, add_assoc]

theorem keptMass_eq_sum (reach : Array K) (row : List (Tr K)) :
    keptMass reach row = ((row.filter (fun t => !dead reach t)).map (·.p)).sum := by
  unfold keptMass
  rw [← List.foldl_map (g := (· + ·)), foldl_add_eq_sum, zero_add]

/-- `1 -` the total probability of the dead transitions is `keptMass` on a row that sums to 1.
(`prunePathsOldStep` in `CR/Model/Heap.lean` divides by `1 - removed`, where `removed` is a `foldl`
over the row with an `if`; no lemma relates that fold to the sum written here.) -/
theorem one_sub_removedMass (reach : Array K) {row : List (Tr K)}
    (hsum : (row.map (·.p)).sum = 1) :
    1 - ((row.filter (dead reach)).map (·.p)).sum = keptMass reach row := by
  have := List.sum_map_filter_add_sum_map_filter_not (fun t : Tr K => dead reach t = true) (·.p) row
  simp only [Bool.decide_eq_true, Bool.not_eq_true, Bool.decide_eq_false] at this
  rw [keptMass_eq_sum, ← hsum, ← this]
  ring

theorem sum_live_pos (reach : Array K) {row : List (Tr K)}
    (hpos : ∀ t ∈ row, dead reach t = false → 0 < t.p)
    (hne : row.filter (fun t => !dead reach t) ≠ []) :
    0 < ((row.filter (fun t => !dead reach t)).map (·.p)).sum := by
  apply List.sum_pos
  · intro x hx
    obtain ⟨t, ht, rfl⟩ := List.mem_map.mp hx
    exact hpos t (mem_live.mp ht).1 (mem_live.mp ht).2
  · intro h; exact hne (List.map_eq_nil_iff.mp h)

omit [LinearOrder K] [IsStrictOrderedRing K] in
theorem sum_map_div (l : List (Tr K)) (c : K) :
    (l.map (fun t => t.p / c)).sum = (l.map (·.p)).sum / c := by
  induction l with
  | nil => simp
  | cons t l ih => simp only [List.map_cons, List.sum_cons, ih, add_div]

omit [LinearOrder K] [IsStrictOrderedRing K] in
theorem sum_map_rescale (l : List (Tr K)) (hne : (l.map (·.p)).sum ≠ 0) :
    ((l.map (fun t => ({ t with p := t.p / (l.map (·.p)).sum } : Tr K))).map (·.p)).sum = 1 := by
  rw [List.map_map]
  show (l.map (fun t => t.p / (l.map (·.p)).sum)).sum = 1
  rw [sum_map_div]
  exact div_self hne

theorem condProb_field_of_removed (reach : Array K) {row : List (Tr K)}
    (hl : (row.filter (fun t => !dead reach t)).length ≠ row.length) :
    condProb reach row =
      (row.filter (fun t => !dead reach t)).map (fun t =>
        { t with p := t.p / ((row.filter (fun t => !dead reach t)).map (·.p)).sum }) := by
  unfold condProb
  rw [if_neg hl, keptMass_eq_sum]

/-- `hsum` is used only when nothing was removed: the row is then kept verbatim, which is a
division by 1 -/
theorem condProb_field (reach : Array K) {row : List (Tr K)}
    (hsum : (row.map (·.p)).sum = 1) :
    condProb reach row =
      (row.filter (fun t => !dead reach t)).map (fun t =>
        { t with p := t.p / ((row.filter (fun t => !dead reach t)).map (·.p)).sum }) := by
  rcases condProb_cases reach row with ⟨e, hfe⟩ | ⟨hl, _⟩
  · rw [e, hfe, hsum]
    exact (List.map_id'' (fun t => by rw [div_one]) row).symm
  · exact condProb_field_of_removed reach hl

theorem condProb_sum_one (reach : Array K) {row : List (Tr K)} (hpos : ∀ t ∈ row, 0 < t.p)
    (hsum : (row.map (·.p)).sum = 1) (hne : row.filter (fun t => !dead reach t) ≠ []) :
    ((condProb reach row).map (·.p)).sum = 1 := by
  rw [condProb_field reach hsum]
  exact sum_map_rescale _ (ne_of_gt (sum_live_pos reach (fun t ht _ => hpos t ht) hne))

theorem prunePathsProb_pos (reach : Array K) {row : List (Tr K)}
    (hpos : ∀ t ∈ row, dead reach t = false → 0 < t.p) :
    prunePathsProb reach row = .ok (condProb reach row) := by
  rw [prunePathsProb_eq, if_neg]
  rintro ⟨_, hz⟩
  rw [Bool.and_eq_true, Bool.not_eq_true', beq_iff_eq, keptMass_eq_sum] at hz
  exact ne_of_gt (sum_live_pos reach hpos (fun h0 => by rw [h0] at hz; cases hz.1)) hz.2

theorem condProb_pos_of_pos (reach : Array K) {row : List (Tr K)} (hpos : ∀ t ∈ row, 0 < t.p) :
    ∀ t ∈ condProb reach row, 0 < t.p := by
  intro t ht
  rcases condProb_cases reach row with ⟨e, _⟩ | ⟨hl, _⟩
  · exact hpos t (e ▸ ht)
  · rw [condProb_field_of_removed reach hl] at ht
    obtain ⟨t', ht', rfl⟩ := List.mem_map.mp ht
    exact div_pos (hpos t' (List.mem_filter.mp ht').1)
      (sum_live_pos reach (fun t ht _ => hpos t ht) (List.ne_nil_of_mem ht'))

theorem condition_prob_pos {g : Game K} (hg : Shape g)
    (hrows : ∀ s, s < g.owners.size → g.owners.getD s .prob = .prob →
      ∀ t ∈ g.tl.getD s [], 0 < t.p) {prune : Bool}
    {strat : Array Strat} {reach : Array K} {nodes : Array (List (Tr K))}
    (h : condition prune g strat reach = .ok nodes) :
    ∀ s, g.owners.getD s .prob = .prob → ∀ t ∈ nodes.getD s [], 0 < t.p := by
  -- beyond `n` the rows are empty, so `hrows` holds at every index
  have hpos : ∀ s, g.owners.getD s .prob = .prob → ∀ t ∈ g.tl.getD s [], 0 < t.p := by
    intro s ho t ht
    exact hrows s (hg ▸ lt_size_of_mem_getD ht) ho t ht
  intro s ho t ht
  cases prune with
  | false =>
    rw [condition_false_eq] at h
    cases h
    rw [pruneReachability_getD, ho] at ht
    exact hpos s ho t ht
  | true =>
    rcases condition_row_cases h s with hrow | ⟨hnil, _, _⟩
    · rw [hrow, condRow_prob ho] at ht
      exact condProb_pos_of_pos reach (hpos s ho) t ht
    · rw [hnil] at ht; exact absurd ht List.not_mem_nil

theorem prunePaths_total_of_pos {g : Game K} (hg : Shape g) {reach : Array K}
    (hrows : ∀ s, s < g.owners.size → g.owners.getD s .prob = .prob →
      ∀ t ∈ g.tl.getD s [], dead reach t = false → 0 < t.p)
    (strat : Array Strat) :
    ∃ base, prunePaths g.owners reach (pruneReachability g.owners strat g.tl) = .ok base := by
  cases h : prunePaths g.owners reach (pruneReachability g.owners strat g.tl) with
  | ok base => exact ⟨base, rfl⟩
  | error e =>
    obtain ⟨s, hs, _, he⟩ := prunePaths_eq_error.mp h
    rw [pruneReachability_size, hg] at hs
    rw [pruneRow_eq] at he
    by_cases ho : g.owners.getD s .prob = .prob
    · rw [if_pos ho, prunePathsProb_pos reach (hrows s hs ho)] at he
      cases he
    · rw [if_neg ho] at he
      cases he

end OrderedField
end CR
