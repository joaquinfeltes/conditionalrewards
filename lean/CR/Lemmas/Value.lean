/-
Two ways to a pre-fixed point of `Bell`, over any linearly ordered field: the all-ones vector, and
lowering one entry of a pre-fixed point (`PreFixed.lower`).  By the first, over the reals the values
`Vals g s` that the pre-fixed points take at a coordinate form a non-empty set, bounded below by 0:
it has an infimum (`CR/Props/C01Value.lean`).  At the end the example game of `CR/Props/C01.lean`
over ℝ.
-/
import CR.Props.C01
import Mathlib.Algebra.Order.Archimedean.Real.Basic

namespace CR.C01

open CR CR.VI

variable {K : Type} [Field K] [LinearOrder K] [IsStrictOrderedRing K]

def ones (g : Game K) : Array K := (Array.range g.owners.size).map fun _ => 1

omit [LinearOrder K] [IsStrictOrderedRing K] in
theorem getD_ones (g : Game K) (j : Nat) : (ones g).getD j 0 = if j < g.owners.size then 1 else 0 :=
  getD_map_range _ _ _ _

theorem ones_le_one (g : Game K) (j : Nat) : (ones g).getD j 0 ≤ 1 := by
  rw [getD_ones]
  split
  · exact le_rfl
  · exact zero_le_one

theorem ones_prefixed {g : Game K} (hwf : WF g) : PreFixed g (ones g) := by
  have h1 : ∀ s < g.owners.size, (ones g).getD s 0 = 1 := fun s hs => by
    rw [getD_ones, if_pos hs]
  refine ⟨by simp [ones], fun s hs => ?_, fun s hs => ?_⟩
  · rw [h1 s hs]; exact zero_le_one
  · rw [h1 s hs]; exact Bell_le_one hwf hs _ fun _ _ => ones_le_one g _

omit [IsStrictOrderedRing K] in
theorem setIfInBounds_le {y : Array K} {s : Nat} {c : K} (hc : c ≤ y.getD s 0) (j : Nat) :
    (y.setIfInBounds s c).getD j 0 ≤ y.getD j 0 :=
  getD_set_ind (fun j a => a ≤ y.getD j 0) (fun _ => le_rfl) (fun _ => hc) j

/-- lowering one entry of a pre-fixed point: by monotonicity the Bellman values of the other states
only fall; `hb` is the inequality at `s` itself, after the write -/
theorem PreFixed.lower {g : Game K} (hwf : WF g) {y : Array K} (hy : PreFixed g y) {s : Nat}
    (hs : s < g.owners.size) {c : K} (h0 : 0 ≤ c) (hc : c ≤ y.getD s 0)
    (hb : Bell g (y.setIfInBounds s c) s ≤ c) : PreFixed g (y.setIfInBounds s c) := by
  refine ⟨(Array.size_setIfInBounds ..).trans hy.size,
    getD_set_ind (fun j a => j < g.owners.size → 0 ≤ a) hy.nonneg fun _ _ => h0, fun t ht => ?_⟩
  by_cases hts : s = t
  · subst hts
    rw [getD_set_self _ _ (hy.size ▸ hs)]; exact hb
  · rw [getD_set_ne _ _ hts]
    exact (Bell_mono hwf ht _ y fun _ _ => setIfInBounds_le hc _).trans (hy.bell_le t ht)

def Vals (g : Game ℝ) (s : Nat) : Set ℝ := { r | ∃ y, PreFixed g y ∧ r = y.getD s 0 }

theorem vals_nonempty (g : Game ℝ) (hwf : WF g) (s : Nat) : (Vals g s).Nonempty :=
  ⟨_, ones g, ones_prefixed hwf, rfl⟩

theorem vals_nonneg (g : Game ℝ) {s : Nat} (hs : s < g.owners.size) :
    ∀ r ∈ Vals g s, 0 ≤ r := by
  rintro r ⟨y, hy, rfl⟩
  exact hy.nonneg s hs

theorem vals_bdd (g : Game ℝ) {s : Nat} (hs : s < g.owners.size) :
    BddBelow (Vals g s) := ⟨0, fun r hr => vals_nonneg g hs r hr⟩

/-- the three-state example game of `CR/Props/C01.lean`, over the reals -/
noncomputable def exGameR : Game ℝ where
  rewards := #[0, 0, 0]
  owners := #[.prob, .prob, .prob]
  tl := #[[⟨"a", 3/4, 0⟩, ⟨"a", 1/8, 1⟩, ⟨"a", 1/8, 2⟩], [⟨"a", 1, 1⟩], [⟨"a", 1, 2⟩]]
  finals := [1]

theorem exGameR_cases {P : Nat → Prop} (h0 : P 0) (h1 : P 1) (h2 : P 2) :
    ∀ s < exGameR.owners.size, P s := by
  intro s hs
  have hs' : s < 3 := hs
  obtain rfl | rfl | rfl : s = 0 ∨ s = 1 ∨ s = 2 := by omega
  exacts [h0, h1, h2]

theorem exGameR_wf : WF exGameR := by
  -- the targets are natural numbers: a finite check; the probabilities are reals
  refine ⟨rfl, by decide +kernel, exGameR_cases ?_ ?_ ?_⟩
  all_goals simp [exGameR]
  norm_num

theorem exGameR_rows_ne : ∀ s < exGameR.owners.size, exGameR.tl.getD s [] ≠ [] :=
  exGameR_cases (by simp [exGameR]) (by simp [exGameR]) (by simp [exGameR])

end CR.C01
