/-
Termination of the two loops of the solver (C06).

* The reachability loop terminates by a potential argument: the iterates increase and stay in
  `[0,1]`, and a sweep that does not end the loop raises `Σ_s x[s]` by more than the threshold.
* On node lists that are acyclic apart from absorbing states (`Rank.Ranked`) the reward loop exits
  within `max rank + 2` sweeps: a sweep keeps settled states settled (`Stab`) and settles every
  state whose successors were; once all states are settled the next sweep reports `diff = 0`.
-/
import CR.Lemmas.RewStep
import CR.Lemmas.Prune

namespace CR.Term

open CR CR.VI CR.Rew CR.C06

variable {K : Type} [Field K] [LinearOrder K] [IsStrictOrderedRing K]

def vsum (x : Array K) (n : Nat) : K := ((List.range n).map (fun s => x.getD s 0)).sum

omit [LinearOrder K] [IsStrictOrderedRing K] in
theorem vsum_succ (x : Array K) (n : Nat) : vsum x (n + 1) = vsum x n + x.getD n 0 := by
  unfold vsum
  rw [List.range_succ, List.map_append, List.sum_append]
  simp

theorem vsum_le (x : Array K) (n : Nat) (h : ∀ j, x.getD j 0 ≤ 1) : vsum x n ≤ (n : K) := by
  induction n with
  | zero => simp [vsum]
  | succ n ih => rw [vsum_succ, Nat.cast_succ]; exact add_le_add ih (h n)

theorem vsum_mono (x y : Array K) (n : Nat) (h : ∀ j, x.getD j 0 ≤ y.getD j 0) :
    vsum x n ≤ vsum y n :=
  List.sum_le_sum fun s _ => h s

theorem vsum_nonneg (x : Array K) (n : Nat) (h : ∀ j, 0 ≤ x.getD j 0) : 0 ≤ vsum x n :=
  List.sum_nonneg fun a ha => by
    obtain ⟨s, _, rfl⟩ := List.mem_map.mp ha
    exact h s

theorem vsum_gain (x y : Array K) (n : Nat) (h : ∀ j, x.getD j 0 ≤ y.getD j 0) (s : Nat)
    (hs : s < n) : vsum x n + (y.getD s 0 - x.getD s 0) ≤ vsum y n := by
  induction n with
  | zero => omega
  | succ n ih =>
    rw [vsum_succ, vsum_succ]
    rcases Nat.lt_succ_iff_lt_or_eq.mp hs with hlt | rfl
    · rw [add_right_comm]; exact add_le_add (ih hlt) (h n)
    · rw [add_assoc, add_sub_cancel]; exact add_le_add_left (vsum_mono x y s h) _

section Reach
variable {g : Game K}

/-- a sweep raises `Σ x` by at least the change it reports: the change is attained at one
coordinate, and no coordinate decreases -/
theorem iter_gain (htl : g.tl.size = g.owners.size)
    (hp : ∀ s < g.owners.size, RowNonneg g.owners g.tl s) (k : Nat) :
    vsum (iter g k) g.owners.size + dres g k ≤ vsum (iter g (k + 1)) g.owners.size := by
  have hmono := iter_le_succ hp k
  rcases dres_attained htl k with hd | ⟨s, _, hlt, hd⟩
  · rw [hd, add_zero]
    exact vsum_mono _ _ _ hmono
  · rw [hd, abs_of_nonneg (sub_nonneg.mpr (hmono s))]
    exact vsum_gain _ _ _ hmono s hlt

/-- potential argument: a sweep that leaves `diff > thr` has raised `Σ x` by more than `thr`, and
`Σ x ≤ n`; so a loop that still wants to sweep must have `n < fuel * thr + Σ x` -/
theorem viReach_terminates (htl : g.tl.size = g.owners.size)
    (hp : ∀ s < g.owners.size, RowNonneg g.owners g.tl s)
    (hs1 : ∀ s < g.owners.size, RowSumOne g.owners g.tl s) (thr : K) (fuel : Nat) (diff : K)
    (k i : Nat)
    (hfuel : diff > thr →
      (g.owners.size : K) < (fuel : K) * thr + vsum (iter g k) g.owners.size) :
    viReach g.owners g.tl (gameOrder g) thr fuel diff (iter g k) i ≠ .error .outOfFuel := by
  induction fuel generalizing diff k i with
  | zero =>
    unfold viReach
    split_ifs with hd
    · have h1 := vsum_le (iter g k) g.owners.size fun j => (iter_range hp hs1 k j).2
      have h2 := hfuel hd
      rw [Nat.cast_zero, zero_mul, zero_add] at h2
      exact absurd h1 (not_le.mpr h2)
    · exact nofun
  | succ fuel ih =>
    unfold viReach
    split_ifs with hd
    · rw [sweepReach_iter]
      refine ih _ _ _ fun hd' : dres g k > thr => ?_
      have h2 := hfuel hd
      rw [Nat.cast_succ, add_one_mul, add_assoc, add_comm thr] at h2
      -- the sweep gained `dres > thr` (`iter_gain`)
      have hg : vsum (iter g k) g.owners.size + thr ≤ vsum (iter g (k + 1)) g.owners.size :=
        (add_le_add_right hd'.le _).trans (iter_gain htl hp k)
      exact h2.trans_le (add_le_add_right hg _)
    · exact nofun

end Reach

theorem condProb_pos (reach : Array K) {row : List (Tr K)} (hpos : ∀ t ∈ row, 0 < t.p)
    (_hsum : (row.map (·.p)).sum = 1) : ∀ t ∈ condProb reach row, 0 < t.p :=
  condProb_pos_of_pos reach hpos

section Ranked
variable {rnd : K → Int} {o : Array Owner} {rewards : Array K} {nodes : Array (List (Tr K))}
  {reach : Array K}

theorem stepRew_congr_tripleAt (s : Nat) (v w : RewVecs K)
    (h : ∀ t ∈ nodes.getD s [], tripleAt v t.tgt = tripleAt w t.tgt) :
    stepRew rnd o rewards nodes reach v s = stepRew rnd o rewards nodes reach w s :=
  stepRew_congr (fun t ht => congrArg (·.1) (h t ht))
    (fun t ht => congrArg (·.2.1) (h t ht)) (fun t ht => congrArg (·.2.2) (h t ht))

omit [IsStrictOrderedRing K] in
theorem tripleAt_updAcc {n : Nat} {acc : RewVecs K × K} (h : Sized n acc.1) {s : Nat} (hs : s < n)
    (t : K × K × K) (j : Nat) :
    tripleAt (updAcc acc s t).1 j = if s = j then t else tripleAt acc.1 j := by
  obtain ⟨h1, h2, h3⟩ := h
  unfold tripleAt updAcc
  simp only [getD_setIfInBounds, h1, h2, h3, hs, and_true]
  -- the test `s = j` stands in each of the three components and on the right: one split for all
  -- (`split_ifs` would split them one after the other)
  by_cases hsj : s = j
  · simp only [if_pos hsj]
  · simp only [if_neg hsj]

/-- `w` and `v` have the same three values at every state `< n` of `D` -/
def AgreeOn (n : Nat) (D : Nat → Prop) (w v : RewVecs K) : Prop :=
  ∀ j < n, D j → tripleAt w j = tripleAt v j

omit [LinearOrder K] [IsStrictOrderedRing K] in
theorem AgreeOn.refl {n : Nat} {D : Nat → Prop} (v : RewVecs K) : AgreeOn n D v v :=
  fun _ _ _ => rfl

omit [LinearOrder K] [IsStrictOrderedRing K] in
theorem AgreeOn.trans {n : Nat} {D : Nat → Prop} {u v w : RewVecs K} (h1 : AgreeOn n D u v)
    (h2 : AgreeOn n D v w) : AgreeOn n D u w :=
  fun j hj hD => (h1 j hj hD).trans (h2 j hj hD)

omit [IsStrictOrderedRing K] in
theorem AgreeOn.updAcc {n : Nat} {D : Nat → Prop} {x : RewVecs K × K} {v : RewVecs K}
    (hsz : Sized n x.1) (h : AgreeOn n D x.1 v) {s : Nat} (hs : s < n) {t : K × K × K}
    (ht : D s → t = tripleAt v s) : AgreeOn n D (updAcc x s t).1 v := fun j hj hDj => by
  rw [tripleAt_updAcc hsz hs]
  split_ifs with hsj
  · exact hsj ▸ ht (hsj ▸ hDj)
  · exact h j hj hDj

variable (rnd o rewards nodes reach) in
/-- the values of the states in `D` are settled: re-evaluating such a state from any vectors that
agree with `v` on `D` reproduces its value in `v` -/
def Stab (D : Nat → Prop) (v : RewVecs K) : Prop :=
  ∀ s < o.size, D s → ∀ w, AgreeOn o.size D w v →
    stepRew rnd o rewards nodes reach w s = .ok (tripleAt v s)

theorem stab_fixed {D : Nat → Prop} {v : RewVecs K} (h : Stab rnd o rewards nodes reach D v)
    (s : Nat) (hs : s < o.size) (hD : D s) : Brew o rewards nodes v.er s = v.er.getD s 0 :=
  (stepRew_fst (h s hs hD v (.refl v))).symm

/-- agreement with `v` on a settled set `D` is a sweep invariant: a state of `D` is rewritten with
its value in `v`, a write elsewhere is not in `D` -/
theorem stab_agree {D : Nat → Prop} {v : RewVecs K} (hD : Stab rnd o rewards nodes reach D v)
    (l : List Nat) (hl : ∀ s ∈ l, s < o.size) (acc r : RewVecs K × K) (hsz : Sized o.size acc.1)
    (hag : AgreeOn o.size D acc.1 v)
    (hr : sweepRewFrom rnd o rewards nodes reach l acc = .ok r) :
    Sized o.size r.1 ∧ AgreeOn o.size D r.1 v := by
  refine sweepRewFrom_inv (fun x => Sized o.size x ∧ AgreeOn o.size D x v) l ?_ acc r ⟨hsz, hag⟩ hr
  intro x s t hs ⟨h1, h3⟩ hx
  refine ⟨h1.updAcc s t, h3.updAcc h1 (hl s hs) fun hDs => ?_⟩
  rw [hD s (hl s hs) hDs x.1 h3] at hx
  exact (Except.ok.inj hx).symm

/-- a sweep extends the settled set from `D` to `D'` if every state of `D' \ D` has all its
successors in `D` -/
theorem stab_sweep {D D' : Nat → Prop} {v : RewVecs K} (hsz : Sized o.size v)
    (hD : Stab rnd o rewards nodes reach D v) (hsub : ∀ s, D s → D' s)
    (hdep : ∀ s < o.size, D' s → ¬ D s → ∀ t ∈ nodes.getD s [], t.tgt < o.size ∧ D t.tgt)
    {r : RewVecs K × K} (hsw : sweepRew rnd o rewards nodes reach v = .ok r) :
    Sized o.size r.1 ∧ Stab rnd o rewards nodes reach D' r.1 := by
  rw [Rew.sweepRew_eq] at hsw
  have hlt : ∀ s ∈ List.range o.size, s < o.size := fun s => List.mem_range.mp
  obtain ⟨hszr, hagr⟩ := stab_agree hD _ hlt (v, 0) r hsz (.refl v) hsw
  refine ⟨hszr, fun s hs hD's w hw => ?_⟩
  have hw' : AgreeOn o.size D w v := .trans (fun j hj hDj => hw j hj (hsub j hDj)) hagr
  by_cases hds : D s
  · rw [hD s hs hds w hw', hagr s hs hds]
  · -- `s` was settled when it was visited: its successors are in `D`, where nothing has moved
    obtain ⟨l1, l2, a, t, hl, h1, hst, -, hval⟩ :=
      sweepRewFrom_visit List.nodup_range (v, 0) r hsw (List.mem_range.mpr hs)
    obtain ⟨-, haga⟩ := stab_agree hD l1
      (fun s' hs' => hlt s' (hl ▸ List.mem_append_left _ hs')) (v, 0) a hsz (.refl v) h1
    have hv : tripleAt r.1 s = t :=
      tripleAt_eq_iff.mpr fun c => hval c (hs.trans_eq (hsz.vec c).symm)
    rw [hv, ← hst]
    refine stepRew_congr_tripleAt s w a.1 fun u hu => ?_
    obtain ⟨hun, hDu⟩ := hdep s hs hD's hds u hu
    rw [hw' _ hun hDu, haga _ hun hDu]

/-- once all states are settled a sweep rewrites every entry with itself -/
theorem stab_all_sweep {D : Nat → Prop} (hall : ∀ s < o.size, D s) {v : RewVecs K}
    (hsz : Sized o.size v) (hD : Stab rnd o rewards nodes reach D v) {r : RewVecs K × K}
    (hsw : sweepRew rnd o rewards nodes reach v = .ok r) : r.2 = 0 := by
  rw [Rew.sweepRew_eq] at hsw
  have key := sweepRewFrom_induct
    (fun l acc => Sized o.size acc.1 ∧ (∀ s ∈ l, s < o.size) ∧ AgreeOn o.size D acc.1 v ∧
      acc.2 = 0) ?_ (List.range o.size) (v, 0) r
    ⟨hsz, fun s hs => List.mem_range.mp hs, .refl v, rfl⟩ hsw
  · exact key.2.2.2
  · intro s l acc x ⟨h1, h2, h3, h4⟩ hx
    have hs : s < o.size := h2 s List.mem_cons_self
    rw [hD s hs (hall s hs) acc.1 h3, ← h3 s hs (hall s hs)] at hx
    cases hx
    exact ⟨h1.updAcc s _, fun s' hs' => h2 s' (List.mem_cons_of_mem _ hs'),
      h3.updAcc h1 hs (h3 s hs), by simp only [updAcc, tripleAt, h4, sub_self, abs_zero, max_self]⟩

end Ranked

end CR.Term

namespace CR.Rank

open CR CR.VI CR.Rew CR.C06 CR.Term

variable {K : Type} [Field K]

/-- the node lists `nodes` are acyclic apart from absorbing states: every non-absorbing state has
all its successors in range and either absorbing or of strictly smaller rank `rk`; ranks are
bounded by `R`.  (This is the hypothesis bundle of `C06.rewards_terminate_of_ranked`.) -/
structure Ranked (o : Array Owner) (rewards : Array K) (nodes : Array (List (Tr K)))
    (rk : Nat → Nat) (R : Nat) : Prop where
  bound : ∀ s < o.size, rk s ≤ R
  step : ∀ s < o.size, ¬ Absorbing o rewards nodes s → ∀ t ∈ nodes.getD s [],
    t.tgt < o.size ∧ (Absorbing o rewards nodes t.tgt ∨ rk t.tgt < rk s)

/-- absorbing or of rank `< k`: the states that are settled after `k` sweeps -/
def Low (o : Array Owner) (rewards : Array K) (nodes : Array (List (Tr K))) (rk : Nat → Nat)
    (k s : Nat) : Prop :=
  Absorbing o rewards nodes s ∨ rk s < k

variable {o : Array Owner} {rewards : Array K} {nodes : Array (List (Tr K))} {rk : Nat → Nat}
  {R : Nat}

/-- on concrete data `Ranked` is a finite check -/
theorem ranked_of_range
    (h : ∀ s ∈ List.range o.size, rk s ≤ R ∧ (¬ Absorbing o rewards nodes s →
      ∀ t ∈ nodes.getD s [], t.tgt < o.size ∧ (Absorbing o rewards nodes t.tgt ∨ rk t.tgt < rk s))) :
    Ranked o rewards nodes rk R :=
  ⟨fun s hs => (h s (List.mem_range.mpr hs)).1, fun s hs => (h s (List.mem_range.mpr hs)).2⟩

theorem Ranked.low_all (hrk : Ranked o rewards nodes rk R) {k : Nat} (hk : R + 1 ≤ k) :
    ∀ s < o.size, Low o rewards nodes rk k s :=
  fun s hs => Or.inr (by have := hrk.bound s hs; omega)

theorem Ranked.low_dep (hrk : Ranked o rewards nodes rk R) (k : Nat) :
    ∀ s < o.size, Low o rewards nodes rk (k + 1) s → ¬ Low o rewards nodes rk k s →
      ∀ t ∈ nodes.getD s [], t.tgt < o.size ∧ Low o rewards nodes rk k t.tgt := by
  intro s hs hD' hnD t ht
  have hna : ¬ Absorbing o rewards nodes s := fun h => hnD (Or.inl h)
  have hk1 := hD'.resolve_left hna
  obtain ⟨h1, h2⟩ := hrk.step s hs hna t ht
  exact ⟨h1, h2.imp_right fun h => by omega⟩

variable [LinearOrder K] [IsStrictOrderedRing K] {rnd : K → Int} {reach : Array K}

theorem stab_low_zero (rk : Nat → Nat) (v : RewVecs K) :
    Stab rnd o rewards nodes reach (Low o rewards nodes rk 0) v := fun s hs hD w hw => by
  rw [stepRew_absorbing (hD.resolve_right (Nat.not_lt_zero _)) w, hw s hs hD]

theorem Ranked.stab_succ (hrk : Ranked o rewards nodes rk R) {k : Nat} {v : RewVecs K}
    (hsz : Sized o.size v) (hst : Stab rnd o rewards nodes reach (Low o rewards nodes rk k) v)
    {r : RewVecs K × K} (hsw : sweepRew rnd o rewards nodes reach v = .ok r) :
    Sized o.size r.1 ∧ Stab rnd o rewards nodes reach (Low o rewards nodes rk (k + 1)) r.1 :=
  stab_sweep hsz hst (fun _ h => h.imp_right Nat.lt_succ_of_lt) (hrk.low_dep k) hsw

/-- after the `m` sweeps of an `.ok` run the states of `Low (k + m)` are settled -/
theorem viRew_low (hrk : Ranked o rewards nodes rk R) {thr : K} {fuel k : Nat} {diff : K}
    {v : RewVecs K} {i : Nat} {r : RewVecs K × Nat} (hsz : Sized o.size v)
    (hst : Stab rnd o rewards nodes reach (Low o rewards nodes rk k) v)
    (h : viRew rnd o rewards nodes reach thr fuel diff v i = .ok r) :
    ∃ m, r.2 = i + m ∧ Sized o.size r.1 ∧
      Stab rnd o rewards nodes reach (Low o rewards nodes rk (k + m)) r.1 :=
  viRew_run_vecs
    (fun k v => Sized o.size v ∧ Stab rnd o rewards nodes reach (Low o rewards nodes rk k) v)
    (fun _ _ _ _ hx hs => hrk.stab_succ hx.1 hx.2 hs) thr fuel diff v i k r ⟨hsz, hst⟩ h

/-- from vectors in which the states of `Low k` are settled the loop exits after at most `j + 1`
further sweeps, where `k + j = R + 1`: `j` sweeps settle all states, the next one reports
change 0 -/
theorem viRew_ranked_from_level (hrk : Ranked o rewards nodes rk R)
    (hr : ∀ s < o.size, 0 ≤ rewards.getD s 0) (hp : ∀ s < o.size, RowNonneg o nodes s)
    {thr : K} (hthr : 0 ≤ thr) {fuel k j : Nat} (hk : k + j = R + 1) (hfuel : j < fuel) (diff : K)
    {v : RewVecs K} (i : Nat) (hsz : Sized o.size v) (hv : ∀ j, 0 ≤ v.er.getD j 0)
    (hst : Stab rnd o rewards nodes reach (Low o rewards nodes rk k) v) :
    ∃ r, viRew rnd o rewards nodes reach thr fuel diff v i = .ok r ∧ r.2 ≤ i + (j + 1) := by
  induction fuel generalizing k j diff v i with
  | zero => exact absurd hfuel (Nat.not_lt_zero j)
  | succ fuel ih =>
    by_cases hd : diff > thr
    · obtain ⟨r', hs', hv'⟩ := sweepRew_nonneg (rnd := rnd) (reach := reach) hr hp v hv
      rw [viRew_succ fuel v i hd, hs']
      cases j with
      | zero =>
        have hz := stab_all_sweep (hrk.low_all (Nat.le_of_eq hk.symm)) hsz hst hs'
        exact ⟨_, viRew_exit fuel r'.1 (i + 1) (by rw [hz]; exact not_lt.mpr hthr), le_rfl⟩
      | succ j =>
        obtain ⟨hsz', hst'⟩ := hrk.stab_succ hsz hst hs'
        obtain ⟨r, hr1, hr2⟩ := ih (k := k + 1) (j := j) ((Nat.add_right_comm k 1 j).trans hk)
          (Nat.lt_of_succ_lt_succ hfuel) r'.2 (i + 1) hsz' hv' hst'
        exact ⟨r, hr1, by omega⟩
    · exact ⟨_, viRew_exit _ v i hd, Nat.le_add_right i (j + 1)⟩

end CR.Rank
