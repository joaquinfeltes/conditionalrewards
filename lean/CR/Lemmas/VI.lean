/-
The reachability value iteration of `CR/Model/Solver.lean` over a linearly ordered field.

`stepReach` is a maximum clamped below by 0 / a minimum clamped above by 1 / a weighted sum over
the row of the state.  What is used of it afterwards: it reads the vector at the successors only
(every lemma takes its hypotheses there), is monotone and commutes with shifts
(`stepReach_le_add`, hence non-expansive in the sup norm), and keeps `[0,1]`.  A sweep is a chain
of single-coordinate writes (`sweepFrom_inv`; `sweepFrom_visit` for the moment a coordinate is
written).  An `.ok` run reports an iterate `iter g k` of the sweep over `gameOrder g` from
`initVec g`; `dres g k` is the change the sweep from iterate `k` reports.
-/
import CR.Lemmas.Basic
import CR.Lemmas.Rdfs
import Mathlib.Algebra.Order.Field.Basic
import Mathlib.Algebra.Order.Ring.Abs
import Mathlib.Algebra.Order.Group.MinMax
import Mathlib.Logic.Function.Iterate
import Mathlib.Tactic.Linarith

namespace CR.VI

open CR

variable {K : Type} [Field K] [LinearOrder K] [IsStrictOrderedRing K]

theorem absv_eq_abs (x : K) : absv x = |x| := by
  unfold absv
  split_ifs with h
  · exact (abs_of_neg h).symm
  · exact (abs_of_nonneg (not_lt.mp h)).symm

/-- `|a - b| ≤ e` as two shifted inequalities: the form in which "monotone and commutes with
shifts" gives non-expansiveness -/
theorem abs_sub_le_iff_le_add {a b e : K} : |a - b| ≤ e ↔ a ≤ b + e ∧ b ≤ a + e := by
  rw [abs_sub_le_iff, sub_le_iff_le_add', sub_le_iff_le_add']

/-- the empty cases: nothing changed -/
theorem abs_sub_self_le (a : K) {e : K} (he : 0 ≤ e) : |a - a| ≤ e := by
  rw [sub_self, abs_zero]; exact he

/-- a bound on an absolute value is nonnegative -/
theorem nonneg_of_abs_le {a e : K} (h : |a| ≤ e) : 0 ≤ e := (abs_nonneg a).trans h

def maxOver (x : Array K) (row : List (Tr K)) (m0 : K) : K :=
  row.foldl (fun m t => max m (x.getD t.tgt 0)) m0

def minOver (x : Array K) (row : List (Tr K)) (m0 : K) : K :=
  row.foldl (fun m t => min m (x.getD t.tgt 0)) m0

def sumOver (x : Array K) (row : List (Tr K)) : K :=
  (row.map (fun t => x.getD t.tgt 0 * t.p)).sum

def psum (row : List (Tr K)) : K := (row.map (·.p)).sum

set_option linter.unusedSectionVars false in
@[simp] theorem maxOver_nil (x : Array K) (m0 : K) : maxOver x [] m0 = m0 := rfl
set_option linter.unusedSectionVars false in
@[simp] theorem minOver_nil (x : Array K) (m0 : K) : minOver x [] m0 = m0 := rfl
set_option linter.unusedSectionVars false in
@[simp] theorem sumOver_nil (x : Array K) : sumOver x [] = 0 := rfl
set_option linter.unusedSectionVars false in
@[simp] theorem psum_nil : psum ([] : List (Tr K)) = 0 := rfl

/-! None of the lemmas on `maxOver` needs the ring order, so those on `minOver` are the same lemmas
read in the order dual `Kᵒᵈ`, where `min` is `max` by definition. -/

section MaxMin
omit [IsStrictOrderedRing K]

omit [Field K] in
theorem ite_gt_eq_max (a b : K) : (if b > a then b else a) = max a b := by
  split_ifs with h
  · exact (max_eq_right (le_of_lt h)).symm
  · exact (max_eq_left (not_lt.mp h)).symm

theorem foldl_max_eq (x : Array K) (row : List (Tr K)) (m0 : K) :
    row.foldl (fun m t => if x.getD t.tgt 0 > m then x.getD t.tgt 0 else m) m0
      = maxOver x row m0 :=
  congrArg (fun f => row.foldl f m0) (funext fun m => funext fun _ => ite_gt_eq_max m _)

theorem foldl_min_eq (x : Array K) (row : List (Tr K)) (m0 : K) :
    row.foldl (fun m t => if x.getD t.tgt 0 < m then x.getD t.tgt 0 else m) m0
      = minOver x row m0 :=
  foldl_max_eq (K := Kᵒᵈ) x row m0

@[simp] theorem maxOver_cons (x : Array K) (t : Tr K) (row : List (Tr K)) (m0 : K) :
    maxOver x (t :: row) m0 = maxOver x row (max m0 (x.getD t.tgt 0)) := rfl
@[simp] theorem minOver_cons (x : Array K) (t : Tr K) (row : List (Tr K)) (m0 : K) :
    minOver x (t :: row) m0 = minOver x row (min m0 (x.getD t.tgt 0)) := rfl

theorem maxOver_congr (x y : Array K) (row : List (Tr K)) (m0 : K)
    (h : ∀ t ∈ row, x.getD t.tgt 0 = y.getD t.tgt 0) : maxOver x row m0 = maxOver y row m0 := by
  unfold maxOver
  exact List.foldl_rel (r := (· = ·)) rfl fun t ht a b hab => by rw [hab, h t ht]

theorem le_maxOver_init (x : Array K) (row : List (Tr K)) (m0 : K) : m0 ≤ maxOver x row m0 := by
  induction row generalizing m0 with
  | nil => exact le_rfl
  | cons t row ih => exact le_trans (le_max_left _ _) (ih _)

theorem le_maxOver_mem (x : Array K) (row : List (Tr K)) (m0 : K) (t : Tr K) (ht : t ∈ row) :
    x.getD t.tgt 0 ≤ maxOver x row m0 := by
  induction row generalizing m0 with
  | nil => exact absurd ht List.not_mem_nil
  | cons u row ih =>
    rcases List.mem_cons.mp ht with rfl | h
    · exact le_trans (le_max_right _ _) (le_maxOver_init _ _ _)
    · exact ih _ h

theorem maxOver_attained (x : Array K) (row : List (Tr K)) (m0 : K) :
    maxOver x row m0 = m0 ∨ ∃ t ∈ row, maxOver x row m0 = x.getD t.tgt 0 := by
  induction row generalizing m0 with
  | nil => exact .inl rfl
  | cons u row ih =>
    rcases ih (max m0 (x.getD u.tgt 0)) with h | ⟨t, ht, h⟩
    · rcases max_choice m0 (x.getD u.tgt 0) with h2 | h2
      · left; rw [maxOver_cons, h, h2]
      · right; exact ⟨u, List.mem_cons_self, by rw [maxOver_cons, h, h2]⟩
    · right; exact ⟨t, List.mem_cons_of_mem _ ht, by rw [maxOver_cons]; exact h⟩

theorem maxOver_le (x : Array K) (row : List (Tr K)) (m0 c : K) (h0 : m0 ≤ c)
    (h : ∀ t ∈ row, x.getD t.tgt 0 ≤ c) : maxOver x row m0 ≤ c := by
  induction row generalizing m0 with
  | nil => exact h0
  | cons u row ih =>
    exact ih _ (max_le h0 (h u List.mem_cons_self)) (fun t ht => h t (List.mem_cons_of_mem _ ht))

theorem minOver_congr (x y : Array K) (row : List (Tr K)) (m0 : K)
    (h : ∀ t ∈ row, x.getD t.tgt 0 = y.getD t.tgt 0) : minOver x row m0 = minOver y row m0 :=
  maxOver_congr (K := Kᵒᵈ) x y row m0 h

theorem minOver_le_init (x : Array K) (row : List (Tr K)) (m0 : K) : minOver x row m0 ≤ m0 :=
  le_maxOver_init (K := Kᵒᵈ) x row m0

theorem minOver_le_mem (x : Array K) (row : List (Tr K)) (m0 : K) (t : Tr K) (ht : t ∈ row) :
    minOver x row m0 ≤ x.getD t.tgt 0 :=
  le_maxOver_mem (K := Kᵒᵈ) x row m0 t ht

theorem minOver_attained (x : Array K) (row : List (Tr K)) (m0 : K) :
    minOver x row m0 = m0 ∨ ∃ t ∈ row, minOver x row m0 = x.getD t.tgt 0 :=
  maxOver_attained (K := Kᵒᵈ) x row m0

theorem le_minOver (x : Array K) (row : List (Tr K)) (m0 c : K) (h0 : c ≤ m0)
    (h : ∀ t ∈ row, c ≤ x.getD t.tgt 0) : c ≤ minOver x row m0 :=
  maxOver_le (K := Kᵒᵈ) x row m0 c h0 h

theorem foldl_min_absorb {α β : Type} [LinearOrder α] (k : β → α) {l : List β} {a : β}
    (ha : a ∈ l) (m : α) :
    l.foldl (fun m t => min m (k t)) (min m (k a)) = l.foldl (fun m t => min m (k t)) m := by
  induction l generalizing m with
  | nil => cases ha
  | cons c l ih =>
    rcases List.mem_cons.mp ha with rfl | ha
    · rw [List.foldl_cons, List.foldl_cons, min_assoc, min_self]
    · rw [List.foldl_cons, List.foldl_cons, min_right_comm, ih ha]

/-- started at the key of a member, a running minimum does not depend on which member: this is why
it does not matter that the Player-2 minimum of the reward phase starts at the FIRST transition,
which differs between two presentations -/
theorem foldl_min_start {α β : Type} [LinearOrder α] (k : β → α) {l : List β} {a b : β}
    (ha : a ∈ l) (hb : b ∈ l) :
    l.foldl (fun m t => min m (k t)) (k a) = l.foldl (fun m t => min m (k t)) (k b) := by
  rw [← foldl_min_absorb k hb (k a), min_comm, foldl_min_absorb k ha]

end MaxMin

theorem maxOver_le_add (x y : Array K) (row : List (Tr K)) (m m' e : K) (hm : m ≤ m' + e)
    (h : ∀ t ∈ row, x.getD t.tgt 0 ≤ y.getD t.tgt 0 + e) :
    maxOver x row m ≤ maxOver y row m' + e := by
  -- the maximum over `x` is attained: at the start value or at a member
  rcases maxOver_attained x row m with h' | ⟨t, ht, h'⟩
  · rw [h']; exact hm.trans (add_le_add_left (le_maxOver_init y row m') e)
  · rw [h']; exact (h t ht).trans (add_le_add_left (le_maxOver_mem y row m' t ht) e)

omit [IsStrictOrderedRing K] in
theorem minOver_le_add (x y : Array K) (row : List (Tr K)) (m m' e : K) (hm : m ≤ m' + e)
    (h : ∀ t ∈ row, x.getD t.tgt 0 ≤ y.getD t.tgt 0 + e) :
    minOver x row m ≤ minOver y row m' + e := by
  -- the minimum over `y` is attained: at the start value or at a member
  rcases minOver_attained y row m' with h' | ⟨t, ht, h'⟩
  · rw [h']; exact (minOver_le_init x row m).trans hm
  · rw [h']; exact (minOver_le_mem x row m t ht).trans (h t ht)

/-- for the reward step (`RewStep.lean`), as is `sumOver_nonexp`; the reachability step takes the
combined `stepReach_nonexp` -/
theorem minOver_nonexp (x y : Array K) (row : List (Tr K)) (m0 m0' e : K) (h0 : |m0 - m0'| ≤ e)
    (h : ∀ t ∈ row, |x.getD t.tgt 0 - y.getD t.tgt 0| ≤ e) :
    |minOver x row m0 - minOver y row m0'| ≤ e :=
  abs_sub_le_iff_le_add.mpr
    ⟨minOver_le_add x y row _ _ e (abs_sub_le_iff_le_add.mp h0).1 fun t ht =>
      (abs_sub_le_iff_le_add.mp (h t ht)).1,
     minOver_le_add y x row _ _ e (abs_sub_le_iff_le_add.mp h0).2 fun t ht =>
      (abs_sub_le_iff_le_add.mp (h t ht)).2⟩

omit [LinearOrder K] [IsStrictOrderedRing K] in
theorem foldl_sum_eq (x : Array K) (row : List (Tr K)) (v0 : K) :
    row.foldl (fun v t => v + x.getD t.tgt 0 * t.p) v0 = v0 + sumOver x row := by
  unfold sumOver
  induction row generalizing v0 with
  | nil => simp
  | cons t row ih =>
    simp only [List.foldl_cons, List.map_cons, List.sum_cons]
    rw [ih, add_assoc]

omit [LinearOrder K] [IsStrictOrderedRing K] in
@[simp] theorem sumOver_cons (x : Array K) (t : Tr K) (row : List (Tr K)) :
    sumOver x (t :: row) = x.getD t.tgt 0 * t.p + sumOver x row := by
  simp [sumOver]
omit [LinearOrder K] [IsStrictOrderedRing K] in
@[simp] theorem psum_cons (t : Tr K) (row : List (Tr K)) : psum (t :: row) = t.p + psum row := by
  simp [psum]

omit [LinearOrder K] [IsStrictOrderedRing K] in
theorem sumOver_congr (x y : Array K) (row : List (Tr K))
    (h : ∀ t ∈ row, x.getD t.tgt 0 = y.getD t.tgt 0) : sumOver x row = sumOver y row := by
  unfold sumOver
  congr 1
  exact List.map_congr_left (fun t ht => by rw [h t ht])

/-- the one comparison of weighted sums; `psum_nonneg` and the bounds on `sumOver` are instances -/
theorem wsum_le_add (row : List (Tr K)) (f g : Tr K → K) (e : K) (hp : ∀ t ∈ row, 0 ≤ t.p)
    (h : ∀ t ∈ row, f t ≤ g t + e) :
    (row.map fun t => f t * t.p).sum ≤ (row.map fun t => g t * t.p).sum + e * psum row := by
  induction row with
  | nil => simp
  | cons u row ih =>
    have h3 := ih (fun t ht => hp t (List.mem_cons_of_mem _ ht))
      (fun t ht => h t (List.mem_cons_of_mem _ ht))
    have h4 : f u * u.p ≤ (g u + e) * u.p :=
      mul_le_mul_of_nonneg_right (h u List.mem_cons_self) (hp u List.mem_cons_self)
    simp only [List.map_cons, List.sum_cons, psum_cons]
    exact (add_le_add h4 h3).trans_eq (by rw [add_mul, mul_add, add_add_add_comm])

omit [LinearOrder K] [IsStrictOrderedRing K] in
theorem wsum_const (row : List (Tr K)) (a : K) : (row.map fun t => a * t.p).sum = a * psum row := by
  induction row with
  | nil => exact (mul_zero a).symm
  | cons u row ih => rw [List.map_cons, List.sum_cons, ih, psum_cons, mul_add]

theorem psum_nonneg (row : List (Tr K)) (hp : ∀ t ∈ row, 0 ≤ t.p) : 0 ≤ psum row := by
  have := wsum_le_add row (fun _ => 0) (fun _ => 0) 1 hp fun _ _ => (zero_add (1 : K)).symm ▸ zero_le_one
  rwa [wsum_const, zero_mul, zero_add, one_mul] at this

/-- the weighted sum is monotone, and commutes with shifts when the weights sum to one -/
theorem sumOver_le_add (x y : Array K) (row : List (Tr K)) (e : K) (hp : ∀ t ∈ row, 0 ≤ t.p)
    (hs : e = 0 ∨ psum row = 1) (h : ∀ t ∈ row, x.getD t.tgt 0 ≤ y.getD t.tgt 0 + e) :
    sumOver x row ≤ sumOver y row + e := by
  refine (wsum_le_add row _ _ e hp h).trans_eq (congrArg (sumOver y row + ·) ?_)
  rcases hs with rfl | hs
  · exact zero_mul _
  · rw [hs, mul_one]

theorem sumOver_lower (x : Array K) (row : List (Tr K)) (a : K) (hp : ∀ t ∈ row, 0 ≤ t.p)
    (h : ∀ t ∈ row, a ≤ x.getD t.tgt 0) : a * psum row ≤ sumOver x row := by
  have := wsum_le_add row (fun _ => a) (fun t => x.getD t.tgt 0) 0 hp fun t ht =>
    (h t ht).trans_eq (add_zero _).symm
  rwa [wsum_const, zero_mul, add_zero] at this

theorem sumOver_upper (x : Array K) (row : List (Tr K)) (b : K) (hp : ∀ t ∈ row, 0 ≤ t.p)
    (h : ∀ t ∈ row, x.getD t.tgt 0 ≤ b) : sumOver x row ≤ b * psum row := by
  have := wsum_le_add row (fun t => x.getD t.tgt 0) (fun _ => b) 0 hp fun t ht =>
    (h t ht).trans_eq (add_zero _).symm
  rwa [wsum_const, zero_mul, add_zero] at this

theorem sumOver_nonexp (x y : Array K) (row : List (Tr K)) (e : K) (hp : ∀ t ∈ row, 0 ≤ t.p)
    (hs : psum row = 1) (h : ∀ t ∈ row, |x.getD t.tgt 0 - y.getD t.tgt 0| ≤ e) :
    |sumOver x row - sumOver y row| ≤ e :=
  abs_sub_le_iff_le_add.mpr
    ⟨sumOver_le_add x y row e hp (.inr hs) fun t ht => (abs_sub_le_iff_le_add.mp (h t ht)).1,
     sumOver_le_add y x row e hp (.inr hs) fun t ht => (abs_sub_le_iff_le_add.mp (h t ht)).2⟩

section Step
variable (o : Array Owner) (tl : Array (List (Tr K)))

omit [IsStrictOrderedRing K] in
theorem stepReach_p1 (x : Array K) (s : Nat) (h : o.getD s .prob = .p1) :
    stepReach o tl x s = maxOver x (tl.getD s []) 0 := by
  unfold stepReach
  simp only [h]
  exact foldl_max_eq _ _ _

omit [IsStrictOrderedRing K] in
theorem stepReach_p2 (x : Array K) (s : Nat) (h : o.getD s .prob = .p2) :
    stepReach o tl x s = minOver x (tl.getD s []) 1 := by
  unfold stepReach
  simp only [h]
  exact foldl_min_eq _ _ _

omit [IsStrictOrderedRing K] in
theorem stepReach_prob (x : Array K) (s : Nat) (h : o.getD s .prob = .prob) :
    stepReach o tl x s = sumOver x (tl.getD s []) := by
  unfold stepReach
  simp only [h]
  rw [foldl_sum_eq]; simp

def RowNonneg (s : Nat) : Prop := o.getD s .prob = .prob → ∀ t ∈ tl.getD s [], 0 ≤ t.p

def RowSumOne (s : Nat) : Prop := o.getD s .prob = .prob → psum (tl.getD s []) = 1

variable {o tl}

omit [IsStrictOrderedRing K] in
theorem stepReach_congr (x y : Array K) (s : Nat)
    (h : ∀ t ∈ tl.getD s [], x.getD t.tgt 0 = y.getD t.tgt 0) :
    stepReach o tl x s = stepReach o tl y s := by
  cases ho : o.getD s .prob with
  | p1 => rw [stepReach_p1 o tl x s ho, stepReach_p1 o tl y s ho]; exact maxOver_congr _ _ _ _ h
  | p2 => rw [stepReach_p2 o tl x s ho, stepReach_p2 o tl y s ho]; exact minOver_congr _ _ _ _ h
  | prob => rw [stepReach_prob o tl x s ho, stepReach_prob o tl y s ho]; exact sumOver_congr _ _ _ h

/-- the step is monotone and commutes with shifts.  Monotonicity is `e = 0` (and then needs no
`Σ p = 1`), non-expansiveness in the sup norm is this lemma twice. -/
theorem stepReach_le_add {s : Nat} (hp : RowNonneg o tl s) (x y : Array K) (e : K) (he : 0 ≤ e)
    (hs : e = 0 ∨ RowSumOne o tl s)
    (h : ∀ t ∈ tl.getD s [], x.getD t.tgt 0 ≤ y.getD t.tgt 0 + e) :
    stepReach o tl x s ≤ stepReach o tl y s + e := by
  have hc : ∀ c : K, c ≤ c + e := fun _ => le_add_of_nonneg_right he
  cases ho : o.getD s .prob with
  | p1 =>
    rw [stepReach_p1 o tl x s ho, stepReach_p1 o tl y s ho]
    exact maxOver_le_add _ _ _ _ _ _ (hc 0) h
  | p2 =>
    rw [stepReach_p2 o tl x s ho, stepReach_p2 o tl y s ho]
    exact minOver_le_add _ _ _ _ _ _ (hc 1) h
  | prob =>
    rw [stepReach_prob o tl x s ho, stepReach_prob o tl y s ho]
    exact sumOver_le_add x y _ e (hp ho) (hs.imp_right (· ho)) h

theorem stepReach_mono {s : Nat} (hp : RowNonneg o tl s) (x y : Array K)
    (h : ∀ t ∈ tl.getD s [], x.getD t.tgt 0 ≤ y.getD t.tgt 0) :
    stepReach o tl x s ≤ stepReach o tl y s :=
  (stepReach_le_add hp x y 0 le_rfl (.inl rfl) fun t ht => (h t ht).trans_eq (add_zero _).symm).trans_eq
    (add_zero _)

theorem stepReach_nonexp {s : Nat} (hp : RowNonneg o tl s) (hs : RowSumOne o tl s)
    (x y : Array K) (e : K) (he : 0 ≤ e)
    (h : ∀ t ∈ tl.getD s [], |x.getD t.tgt 0 - y.getD t.tgt 0| ≤ e) :
    |stepReach o tl x s - stepReach o tl y s| ≤ e :=
  abs_sub_le_iff_le_add.mpr
    ⟨stepReach_le_add hp x y e he (.inr hs) fun t ht => (abs_sub_le_iff_le_add.mp (h t ht)).1,
     stepReach_le_add hp y x e he (.inr hs) fun t ht => (abs_sub_le_iff_le_add.mp (h t ht)).2⟩

theorem stepReach_nonneg {s : Nat} (hp : RowNonneg o tl s) (x : Array K)
    (h : ∀ t ∈ tl.getD s [], 0 ≤ x.getD t.tgt 0) : 0 ≤ stepReach o tl x s := by
  cases ho : o.getD s .prob with
  | p1 => rw [stepReach_p1 o tl x s ho]; exact le_maxOver_init _ _ _
  | p2 => rw [stepReach_p2 o tl x s ho]; exact le_minOver _ _ _ _ zero_le_one h
  | prob =>
    rw [stepReach_prob o tl x s ho]
    have := sumOver_lower x (tl.getD s []) 0 (hp ho) h
    rwa [zero_mul] at this

theorem stepReach_le_one {s : Nat} (hp : RowNonneg o tl s) (hs : RowSumOne o tl s) (x : Array K)
    (h : ∀ t ∈ tl.getD s [], x.getD t.tgt 0 ≤ 1) : stepReach o tl x s ≤ 1 := by
  cases ho : o.getD s .prob with
  | p1 => rw [stepReach_p1 o tl x s ho]; exact maxOver_le _ _ _ _ zero_le_one h
  | p2 => rw [stepReach_p2 o tl x s ho]; exact minOver_le_init _ _ _
  | prob =>
    rw [stepReach_prob o tl x s ho]
    have := sumOver_upper x (tl.getD s []) 1 (hp ho) h
    rwa [hs ho, mul_one] at this

/-- a Player-2 state needs a non-empty row: otherwise its step value is the start value 1 of the
running minimum -/
theorem stepReach_eq_zero {s : Nat} (hp : RowNonneg o tl s)
    (hne : o.getD s .prob = .p2 → tl.getD s [] ≠ []) (x : Array K)
    (h : ∀ t ∈ tl.getD s [], x.getD t.tgt 0 = 0) : stepReach o tl x s = 0 := by
  cases ho : o.getD s .prob with
  | p1 =>
    rw [stepReach_p1 o tl x s ho]
    exact le_antisymm (maxOver_le _ _ _ _ le_rfl (fun t ht => le_of_eq (h t ht)))
      (le_maxOver_init _ _ _)
  | p2 =>
    rw [stepReach_p2 o tl x s ho]
    obtain ⟨t, ht⟩ := List.exists_mem_of_ne_nil _ (hne ho)
    exact le_antisymm (le_trans (minOver_le_mem _ _ _ t ht) (le_of_eq (h t ht)))
      (le_minOver _ _ _ _ zero_le_one (fun t ht => le_of_eq (h t ht).symm))
  | prob =>
    rw [stepReach_prob o tl x s ho]
    have h1 := sumOver_upper x (tl.getD s []) 0 (hp ho) (fun t ht => le_of_eq (h t ht))
    have h2 := sumOver_lower x (tl.getD s []) 0 (hp ho) (fun t ht => le_of_eq (h t ht).symm)
    rw [zero_mul] at h1 h2
    exact le_antisymm h1 h2

/-- `c ∈ [0,1]` because the maximum is clamped at 0 and the minimum at 1 -/
theorem stepReach_const {s : Nat} (hp : RowNonneg o tl s) (hs1 : RowSumOne o tl s)
    (hne : tl.getD s [] ≠ []) (x : Array K) (c : K) (h0 : 0 ≤ c) (h1 : c ≤ 1)
    (h : ∀ t ∈ tl.getD s [], x.getD t.tgt 0 = c) : stepReach o tl x s = c := by
  obtain ⟨t0, ht0⟩ := List.exists_mem_of_ne_nil _ hne
  cases ho : o.getD s .prob with
  | p1 =>
    rw [stepReach_p1 o tl x s ho]
    exact le_antisymm (maxOver_le _ _ _ _ h0 fun t ht => (h t ht).le)
      ((h t0 ht0).ge.trans (le_maxOver_mem _ _ _ t0 ht0))
  | p2 =>
    rw [stepReach_p2 o tl x s ho]
    exact le_antisymm ((minOver_le_mem _ _ _ t0 ht0).trans (h t0 ht0).le)
      (le_minOver _ _ _ _ h1 fun t ht => (h t ht).ge)
  | prob =>
    rw [stepReach_prob o tl x s ho]
    have hl := sumOver_lower x (tl.getD s []) c (hp ho) fun t ht => (h t ht).ge
    have hu := sumOver_upper x (tl.getD s []) c (hp ho) fun t ht => (h t ht).le
    rw [hs1 ho, mul_one] at hl hu
    exact le_antisymm hu hl

omit [IsStrictOrderedRing K] in
/-- outside both arrays the owner reads as `.prob` and the row as `[]` -/
theorem stepReach_of_size_le {s : Nat} (ho : o.size ≤ s) (ht : tl.size ≤ s) (x : Array K) :
    stepReach o tl x s = 0 := by
  have h1 : o.getD s .prob = .prob := getD_of_size_le _ _ _ ho
  have h2 : tl.getD s [] = [] := getD_of_size_le _ _ _ ht
  rw [stepReach_prob o tl x s h1, h2]; rfl

end Step

section Sweep
variable (o : Array Owner) (tl : Array (List (Tr K)))

/-- `sweepReach` started from an arbitrary accumulator -/
def sweepFrom (l : List Nat) (acc : Array K × K) : Array K × K :=
  l.foldl (fun (acc : Array K × K) s =>
    let nx := stepReach o tl acc.1 s
    let d := absv (nx - acc.1.getD s 0)
    (acc.1.setIfInBounds s nx, if d > acc.2 then d else acc.2)) acc

omit [IsStrictOrderedRing K] in
theorem sweepReach_eq (l : List Nat) (x : Array K) : sweepReach o tl l x = sweepFrom o tl l (x, 0) :=
  rfl

set_option linter.unusedSectionVars false in
@[simp] theorem sweepFrom_nil (acc : Array K × K) : sweepFrom o tl [] acc = acc := rfl

theorem sweepFrom_cons (s : Nat) (l : List Nat) (acc : Array K × K) :
    sweepFrom o tl (s :: l) acc =
      sweepFrom o tl l (acc.1.setIfInBounds s (stepReach o tl acc.1 s),
        max acc.2 |stepReach o tl acc.1 s - acc.1.getD s 0|) := by
  unfold sweepFrom
  simp only [List.foldl_cons, absv_eq_abs, ite_gt_eq_max]

variable {o tl} in
theorem sweepFrom_inv (P : Array K → Prop) (l : List Nat)
    (hstep : ∀ x s, s ∈ l → P x → P (x.setIfInBounds s (stepReach o tl x s)))
    (acc : Array K × K) (h : P acc.1) : P (sweepFrom o tl l acc).1 := by
  induction l generalizing acc with
  | nil => simpa
  | cons s l ih =>
    rw [sweepFrom_cons]
    exact ih (fun x s' hs' => hstep x s' (List.mem_cons_of_mem _ hs')) _
      (hstep _ s List.mem_cons_self h)

variable {o tl} in
theorem sweepReach_inv (P : Array K → Prop) (l : List Nat)
    (hstep : ∀ x s, s ∈ l → P x → P (x.setIfInBounds s (stepReach o tl x s)))
    (x : Array K) (h : P x) : P (sweepReach o tl l x).1 :=
  sweepFrom_inv P l hstep (x, 0) h

theorem sweepFrom_size (l : List Nat) (acc : Array K × K) :
    (sweepFrom o tl l acc).1.size = acc.1.size :=
  sweepFrom_inv (fun x => x.size = acc.1.size) l (fun _ _ _ h => (Array.size_setIfInBounds ..).trans h)
    acc rfl

theorem sweepFrom_untouched (l : List Nat) (acc : Array K × K) (j : Nat) (hj : j ∉ l) :
    (sweepFrom o tl l acc).1.getD j 0 = acc.1.getD j 0 :=
  sweepFrom_inv (fun x => x.getD j 0 = acc.1.getD j 0) l (fun x s hs h => by
    rw [getD_set_ne _ _ fun e : s = j => hj (e ▸ hs), h]) acc rfl

theorem sweepFrom_diff_ge (l : List Nat) (acc : Array K × K) : acc.2 ≤ (sweepFrom o tl l acc).2 := by
  induction l generalizing acc with
  | nil => simp
  | cons s l ih =>
    rw [sweepFrom_cons]
    exact le_trans (le_max_left _ _) (ih (_, _))

omit [IsStrictOrderedRing K] in
theorem sweepFrom_append (l1 l2 : List Nat) (acc : Array K × K) :
    sweepFrom o tl (l1 ++ l2) acc = sweepFrom o tl l2 (sweepFrom o tl l1 acc) :=
  List.foldl_append

/-- the moment a coordinate is visited.  In a sweep over a duplicate-free list a listed in-range
coordinate `s` is written exactly once: with `y` the state of the sweep just before, `y[s]` is
still the initial entry, the final entry is `step y s`, and the reported change is at least that
of this write.  (Split the list at `s`; nothing before or after touches `s`.) -/
theorem sweepFrom_visit {l : List Nat} (hnd : l.Nodup) (acc : Array K × K) {s : Nat} (hs : s ∈ l)
    (hlt : s < acc.1.size) :
    ∃ l1 l2, l = l1 ++ s :: l2 ∧
      (sweepFrom o tl l1 acc).1.getD s 0 = acc.1.getD s 0 ∧
      (sweepFrom o tl l acc).1.getD s 0 = stepReach o tl (sweepFrom o tl l1 acc).1 s ∧
      sweepFrom o tl l acc = sweepFrom o tl (s :: l2) (sweepFrom o tl l1 acc) ∧
      |stepReach o tl (sweepFrom o tl l1 acc).1 s - acc.1.getD s 0| ≤ (sweepFrom o tl l acc).2 := by
  obtain ⟨l1, l2, rfl⟩ := List.append_of_mem hs
  have h1 : s ∉ l1 := fun h => (List.nodup_append.mp hnd).2.2 s h s List.mem_cons_self rfl
  have h2 : s ∉ l2 := (List.nodup_cons.mp (List.nodup_append.mp hnd).2.1).1
  have hy := sweepFrom_untouched o tl l1 acc s h1
  refine ⟨l1, l2, rfl, hy, ?_, sweepFrom_append o tl _ _ _, ?_⟩
  · rw [sweepFrom_append, sweepFrom_cons, sweepFrom_untouched o tl _ _ s h2,
      getD_set_self _ _ (by rw [sweepFrom_size]; exact hlt)]
  · rw [sweepFrom_append, sweepFrom_cons, ← hy]
    exact (le_max_right _ _).trans (sweepFrom_diff_ge o tl l2 (_, _))

theorem sweepFrom_change_le (l : List Nat) (hnd : l.Nodup) (acc : Array K × K) (h0 : 0 ≤ acc.2)
    (j : Nat) : |(sweepFrom o tl l acc).1.getD j 0 - acc.1.getD j 0| ≤ (sweepFrom o tl l acc).2 := by
  by_cases hj : j ∈ l ∧ j < acc.1.size
  · obtain ⟨l1, l2, -, -, h2, -, h3⟩ := sweepFrom_visit o tl hnd acc hj.1 hj.2
    rw [h2]; exact h3
  · have : (sweepFrom o tl l acc).1.getD j 0 = acc.1.getD j 0 := by
      by_cases hm : j ∈ l
      · have hge : acc.1.size ≤ j := Nat.le_of_not_lt fun h => hj ⟨hm, h⟩
        rw [getD_of_size_le _ j 0 (by rw [sweepFrom_size]; exact hge), getD_of_size_le _ j 0 hge]
      · exact sweepFrom_untouched o tl l acc j hm
    rw [this]
    exact abs_sub_self_le _ (h0.trans (sweepFrom_diff_ge o tl l acc))

variable {o tl}

/-- `hout`: a swept index beyond the array contributes `|0 - 0|` to the reported `diff` -/
theorem sweepFrom_diff_attained (l : List Nat) (hnd : l.Nodup) (acc : Array K × K) (h0 : 0 ≤ acc.2)
    (hout : ∀ (x : Array K) s, acc.1.size ≤ s → stepReach o tl x s = 0) :
    (sweepFrom o tl l acc).2 = acc.2 ∨
      ∃ s ∈ l, s < acc.1.size ∧
        (sweepFrom o tl l acc).2 = |(sweepFrom o tl l acc).1.getD s 0 - acc.1.getD s 0| := by
  induction l generalizing acc with
  | nil => exact .inl rfl
  | cons s l ih =>
    rw [sweepFrom_cons]
    have hnd' := List.nodup_cons.mp hnd
    -- the accumulator after the first write: its `diff` is the old one or the change at `s`
    have hd1 : max acc.2 |stepReach o tl acc.1 s - acc.1.getD s 0| = acc.2 ∨ (s < acc.1.size ∧
        max acc.2 |stepReach o tl acc.1 s - acc.1.getD s 0|
          = |stepReach o tl acc.1 s - acc.1.getD s 0|) := by
      by_cases hs : s < acc.1.size
      · exact (max_choice _ _).imp_right fun h => ⟨hs, h⟩
      · have hs' : acc.1.size ≤ s := Nat.le_of_not_lt hs
        rw [hout acc.1 s hs', getD_of_size_le _ _ _ hs']
        exact .inl (max_eq_left (abs_sub_self_le 0 h0))
    rcases ih hnd'.2 (acc.1.setIfInBounds s (stepReach o tl acc.1 s),
        max acc.2 |stepReach o tl acc.1 s - acc.1.getD s 0|) (h0.trans (le_max_left _ _))
      (fun x s' hs' => hout x s' ((Array.size_setIfInBounds ..).ge.trans hs'))
      with h | ⟨s', hs', hlt', h⟩
    · rcases hd1 with h2 | ⟨hs, h2⟩
      · exact .inl (h.trans h2)
      · refine .inr ⟨s, List.mem_cons_self, hs, ?_⟩
        rw [sweepFrom_untouched o tl l _ s hnd'.1, h, getD_set_self _ _ hs, h2]
    · refine .inr ⟨s', List.mem_cons_of_mem _ hs', (Array.size_setIfInBounds ..) ▸ hlt', ?_⟩
      rw [h, getD_set_ne _ _ fun e : s = s' => hnd'.1 (e ▸ hs')]

theorem sweepFrom_residual (l : List Nat) (hnd : l.Nodup) (acc : Array K × K) (h0 : 0 ≤ acc.2)
    (s : Nat) (hp : RowNonneg o tl s) (hs1 : RowSumOne o tl s) (hs : s ∈ l)
    (hlt : s < acc.1.size) :
    |stepReach o tl (sweepFrom o tl l acc).1 s - (sweepFrom o tl l acc).1.getD s 0|
      ≤ (sweepFrom o tl l acc).2 := by
  obtain ⟨l1, l2, rfl, -, h2, h3, -⟩ := sweepFrom_visit o tl hnd acc hs hlt
  -- the entry is `step y s` for the state `y` at the visit; the rest of the sweep moves no
  -- coordinate by more than the reported change, and the step is non-expansive
  rw [h2, h3]
  have h01 := h0.trans (sweepFrom_diff_ge o tl l1 acc)
  exact stepReach_nonexp hp hs1 _ _ _ (h01.trans (sweepFrom_diff_ge o tl _ _)) fun t _ =>
    sweepFrom_change_le o tl _ (List.nodup_append.mp hnd).2.1 _ h01 _

omit [IsStrictOrderedRing K] in
/-- a Gauss–Seidel write on a sub-solution of a monotone operator `F` (on the coordinates in `D`):
the write raises the entry at `s`, so by monotonicity every value of `F` rises as well, and the
result is a sub-solution again -/
theorem subSol_write {F : Array K → Nat → K} {D : Nat → Prop}
    (hmono : ∀ j, D j → ∀ x y : Array K, (∀ i, x.getD i 0 ≤ y.getD i 0) → F x j ≤ F y j)
    (x : Array K) (s : Nat) (hs : s < x.size → D s) (h : ∀ j, D j → x.getD j 0 ≤ F x j) :
    (∀ j, x.getD j 0 ≤ (x.setIfInBounds s (F x s)).getD j 0) ∧
      ∀ j, D j → (x.setIfInBounds s (F x s)).getD j 0 ≤ F (x.setIfInBounds s (F x s)) j := by
  have hle : ∀ j, x.getD j 0 ≤ (x.setIfInBounds s (F x s)).getD j 0 :=
    getD_set_ind (fun j v => x.getD j 0 ≤ v) (fun _ => le_rfl) fun hlt => h s (hs hlt)
  refine ⟨hle, fun j hj => le_trans ?_ (hmono j hj _ _ hle)⟩
  exact getD_set_ind (fun j v => D j → v ≤ F x j) h (fun _ _ => le_rfl) j hj

def SubSol (o : Array Owner) (tl : Array (List (Tr K))) (ord : List Nat) (x : Array K) : Prop :=
  ∀ s ∈ ord, s < x.size → x.getD s 0 ≤ stepReach o tl x s

theorem subSol_sweep (ord : List Nat) (n : Nat) (hp : ∀ s ∈ ord, s < n → RowNonneg o tl s)
    (x : Array K) (hn : x.size = n) (h : SubSol o tl ord x) :
    (sweepReach o tl ord x).1.size = n ∧ SubSol o tl ord (sweepReach o tl ord x).1 ∧
      ∀ j, x.getD j 0 ≤ (sweepReach o tl ord x).1.getD j 0 := by
  refine sweepReach_inv
    (fun x' => x'.size = n ∧ SubSol o tl ord x' ∧ ∀ j, x.getD j 0 ≤ x'.getD j 0) ord ?_ x
    ⟨hn, h, fun _ => le_rfl⟩
  intro x' s hs ⟨hn', hsub, hle⟩
  have := subSol_write (F := stepReach o tl) (D := fun j => j ∈ ord ∧ j < n)
    (fun j hj x y hxy => stepReach_mono (hp j hj.1 hj.2) x y fun _ _ => hxy _) x' s
    (fun hlt => ⟨hs, hn' ▸ hlt⟩) fun j hj => hsub j hj.1 (hn' ▸ hj.2)
  have hsz : (x'.setIfInBounds s (stepReach o tl x' s)).size = n :=
    (Array.size_setIfInBounds ..).trans hn'
  exact ⟨hsz, fun j hj hlt => this.2 j ⟨hj, hsz ▸ hlt⟩, fun j => (hle j).trans (this.1 j)⟩

end Sweep

section Loop
variable {o : Array Owner} {tl : Array (List (Tr K))}

def sweepVec (o : Array Owner) (tl : Array (List (Tr K))) (ord : List Nat) (x : Array K) : Array K :=
  (sweepReach o tl ord x).1

omit [IsStrictOrderedRing K] in
theorem viReach_error_eq_outOfFuel {ord : List Nat} {thr : K} {fuel : Nat} {diff : K} {x : Array K}
    {i : Nat} {e : Err} (h : viReach o tl ord thr fuel diff x i = .error e) : e = .outOfFuel := by
  induction fuel generalizing diff x i with
  | zero =>
    unfold viReach at h
    split_ifs at h
    exact (Except.error.inj h).symm
  | succ fuel ih =>
    unfold viReach at h
    split_ifs at h
    exact ih h

omit [IsStrictOrderedRing K] in
/-- an `.ok` run is `k` sweeps: it reports `i + k` and the `k`-th iterate of `sweepVec`; either `k = 0` and
the entry `diff` was not above `thr`, or the last sweep reported a `diff` not above `thr`; `Run.stop` is
this at `i = 0`, `diff = 1` -/
theorem viReach_spec {ord : List Nat} {thr : K} {fuel : Nat} {diff : K} {x : Array K} {i : Nat}
    {r : Array K × Nat} (h : viReach o tl ord thr fuel diff x i = .ok r) :
    ∃ k, r.2 = i + k ∧ r.1 = (sweepVec o tl ord)^[k] x ∧
      ((k = 0 ∧ ¬ diff > thr) ∨
        ∃ k', k = k' + 1 ∧ ¬ (sweepReach o tl ord ((sweepVec o tl ord)^[k'] x)).2 > thr) := by
  induction fuel generalizing diff x i with
  | zero =>
    unfold viReach at h
    split_ifs at h with hd
    injection h with h; subst h
    exact ⟨0, rfl, rfl, Or.inl ⟨rfl, hd⟩⟩
  | succ fuel ih =>
    unfold viReach at h
    split_ifs at h with hd
    · obtain ⟨k, hk1, hk2, hk3⟩ := ih h
      refine ⟨k + 1, by omega, ?_, Or.inr ?_⟩
      · rw [hk2, Function.iterate_succ_apply]; rfl
      · rcases hk3 with ⟨rfl, hnd⟩ | ⟨k', rfl, hnd⟩
        · exact ⟨0, rfl, hnd⟩
        · exact ⟨k' + 1, rfl, by rw [Function.iterate_succ_apply]; exact hnd⟩
    · injection h with h; subst h
      exact ⟨0, rfl, rfl, Or.inl ⟨rfl, hd⟩⟩

end Loop

/-- `reach0` of `solveReach`: definitionally the expression in `solveReach_eq_ok`; `Run.order` and `Run.probs`
are the restated forms -/
def initVec (g : Game K) : Array K :=
  (Array.range g.owners.size).map (fun s => if g.finals.contains s then 1 else 0)

omit [LinearOrder K] [IsStrictOrderedRing K] in
theorem initVec_size (g : Game K) : (initVec g).size = g.owners.size := by simp [initVec]

omit [LinearOrder K] [IsStrictOrderedRing K] in
theorem getD_initVec (g : Game K) (s : Nat) :
    (initVec g).getD s 0 = if s < g.owners.size ∧ g.finals.contains s then 1 else 0 := by
  rw [initVec, getD_map_range, ite_and]

/-- `ord` of `solveReach`: definitionally the expression in `solveReach_eq_ok`; `Run.order` and `Run.probs`
are the restated forms -/
def gameOrder (g : Game K) : List Nat :=
  reverseDfs (g.tl.toList.map (fun row => row.map (·.tgt))) g.finals

section Iter
variable {g : Game K}

omit [Field K] [LinearOrder K] [IsStrictOrderedRing K] in
theorem gameOrder_not_final {s : Nat} (hs : s ∈ gameOrder g) : s ∉ g.finals :=
  ((RdfsLemmas.mem_reverseDfs _ _ s).mp hs).2

omit [Field K] [LinearOrder K] [IsStrictOrderedRing K] in
theorem gameOrder_nodup (g : Game K) : (gameOrder g).Nodup := RdfsLemmas.reverseDfs_nodup _ _

omit [LinearOrder K] [IsStrictOrderedRing K] in
theorem getD_initVec_final {s : Nat} (hs : s < g.owners.size) (h : s ∈ g.finals) :
    (initVec g).getD s 0 = 1 := by
  rw [getD_initVec, if_pos ⟨hs, List.contains_iff_mem.mpr h⟩]

omit [LinearOrder K] [IsStrictOrderedRing K] in
theorem getD_initVec_nonfinal {s : Nat} (h : s ∉ g.finals) : (initVec g).getD s 0 = 0 := by
  rw [getD_initVec, if_neg fun c => h (List.contains_iff_mem.mp c.2)]

theorem initVec_range (g : Game K) (j : Nat) :
    0 ≤ (initVec g).getD j 0 ∧ (initVec g).getD j 0 ≤ 1 := by
  rw [getD_initVec]
  split_ifs
  · exact ⟨zero_le_one, le_rfl⟩
  · exact ⟨le_rfl, zero_le_one⟩

/-- the `k`-th Gauss–Seidel iterate of the initial vector -/
def iter (g : Game K) (k : Nat) : Array K :=
  (sweepVec g.owners g.tl (gameOrder g))^[k] (initVec g)

/-- the `diff` result of the sweep that turns iterate `k` into iterate `k + 1` -/
def dres (g : Game K) (k : Nat) : K := (sweepReach g.owners g.tl (gameOrder g) (iter g k)).2

omit [IsStrictOrderedRing K] in
theorem iter_succ (g : Game K) (k : Nat) :
    iter g (k + 1) = sweepVec g.owners g.tl (gameOrder g) (iter g k) :=
  Function.iterate_succ_apply' _ _ _

omit [IsStrictOrderedRing K] in
theorem sweepReach_iter (g : Game K) (k : Nat) :
    sweepReach g.owners g.tl (gameOrder g) (iter g k) = (iter g (k + 1), dres g k) := by
  rw [iter_succ]; rfl

theorem iter_inv (P : Array K → Prop) (h0 : P (initVec g))
    (hstep : ∀ x, ∀ s ∈ gameOrder g, P x → P (x.setIfInBounds s (stepReach g.owners g.tl x s)))
    (k : Nat) : P (iter g k) :=
  Function.Iterate.rec P h0 (fun x hx => sweepReach_inv P _ hstep x hx) k

theorem iter_size (g : Game K) (k : Nat) : (iter g k).size = g.owners.size :=
  iter_inv (fun x => x.size = g.owners.size) (initVec_size g)
    (fun _ _ _ h => (Array.size_setIfInBounds ..).trans h) k

/-- `iter_inv` pointwise: `hstep` is asked only at swept in-range states -/
theorem iter_inv_pt (P : Nat → K → Prop) (h0 : ∀ j, P j ((initVec g).getD j 0))
    (hstep : ∀ x : Array K, x.size = g.owners.size → (∀ j, P j (x.getD j 0)) →
      ∀ s ∈ gameOrder g, s < g.owners.size → P s (stepReach g.owners g.tl x s))
    (k j : Nat) : P j ((iter g k).getD j 0) :=
  (iter_inv (fun x => x.size = g.owners.size ∧ ∀ j, P j (x.getD j 0)) ⟨initVec_size g, h0⟩
    (fun x s hs ⟨hn, h⟩ => ⟨(Array.size_setIfInBounds ..).trans hn,
      getD_set_ind P h fun hlt => hstep x hn h s hs (hn ▸ hlt)⟩) k).2 j

theorem iter_untouched (k : Nat) {j : Nat} (hj : j ∉ gameOrder g) :
    (iter g k).getD j 0 = (initVec g).getD j 0 :=
  iter_inv (fun x => x.getD j 0 = (initVec g).getD j 0) rfl
    (fun x s hs h => by rw [getD_set_ne _ _ fun e : s = j => hj (e ▸ hs), h]) k

theorem getD_iter_of_size_le (k : Nat) {j : Nat} (hj : g.owners.size ≤ j) : (iter g k).getD j 0 = 0 :=
  getD_of_size_le _ _ _ (by rw [iter_size]; exact hj)

theorem iter_range (hp : ∀ s < g.owners.size, RowNonneg g.owners g.tl s)
    (hs1 : ∀ s < g.owners.size, RowSumOne g.owners g.tl s) (k j : Nat) :
    0 ≤ (iter g k).getD j 0 ∧ (iter g k).getD j 0 ≤ 1 :=
  iter_inv_pt (fun _ v => 0 ≤ v ∧ v ≤ 1) (initVec_range g) (fun x _ h s _ hs =>
    ⟨stepReach_nonneg (hp s hs) x fun _ _ => (h _).1,
     stepReach_le_one (hp s hs) (hs1 s hs) x fun _ _ => (h _).2⟩) k j

theorem iter_subSol (hp : ∀ s < g.owners.size, RowNonneg g.owners g.tl s) (k : Nat) :
    SubSol g.owners g.tl (gameOrder g) (iter g k) := by
  induction k with
  | zero =>
    intro s hs hlt
    show (initVec g).getD s 0 ≤ stepReach g.owners g.tl (initVec g) s
    rw [getD_initVec_nonfinal (gameOrder_not_final hs)]
    exact stepReach_nonneg (hp s (initVec_size g ▸ hlt)) _ fun _ _ => (initVec_range g _).1
  | succ k ih =>
    rw [iter_succ]
    exact (subSol_sweep _ _ (fun s _ hs => hp s hs) _ (iter_size g k) ih).2.1

theorem iter_le_succ (hp : ∀ s < g.owners.size, RowNonneg g.owners g.tl s) (k j : Nat) :
    (iter g k).getD j 0 ≤ (iter g (k + 1)).getD j 0 := by
  rw [iter_succ]
  exact (subSol_sweep _ _ (fun s _ hs => hp s hs) _ (iter_size g k) (iter_subSol hp k)).2.2 j

theorem iter_mono (hp : ∀ s < g.owners.size, RowNonneg g.owners g.tl s) (j : Nat) {k m : Nat}
    (h : k ≤ m) : (iter g k).getD j 0 ≤ (iter g m).getD j 0 := by
  induction h with
  | refl => exact le_rfl
  | step _ ih => exact ih.trans (iter_le_succ hp _ j)

theorem dres_nonneg (g : Game K) (k : Nat) : 0 ≤ dres g k :=
  sweepFrom_diff_ge (o := g.owners) (tl := g.tl) (gameOrder g) (iter g k, 0)

theorem dres_attained (htl : g.tl.size = g.owners.size) (k : Nat) :
    dres g k = 0 ∨ ∃ s ∈ gameOrder g, s < g.owners.size ∧
      dres g k = |(iter g (k + 1)).getD s 0 - (iter g k).getD s 0| := by
  have hn := iter_size g k
  rw [iter_succ]
  rcases sweepFrom_diff_attained (o := g.owners) (tl := g.tl) (gameOrder g) (gameOrder_nodup g)
    (iter g k, 0) le_rfl (fun y s hs => stepReach_of_size_le (hn ▸ hs) (htl ▸ hn ▸ hs) y)
    with h | ⟨s, hs, hlt, h⟩
  · exact .inl h
  · exact .inr ⟨s, hs, hn ▸ hlt, h⟩

theorem dres_residual (k : Nat) {s : Nat} (hs : s ∈ gameOrder g) (hlt : s < g.owners.size)
    (hp : RowNonneg g.owners g.tl s) (hs1 : RowSumOne g.owners g.tl s) :
    |stepReach g.owners g.tl (iter g (k + 1)) s - (iter g (k + 1)).getD s 0| ≤ dres g k := by
  rw [iter_succ]
  exact sweepFrom_residual (o := g.owners) (tl := g.tl) (gameOrder g) (gameOrder_nodup g)
    (iter g k, 0) le_rfl s hp hs1 hs (by rw [iter_size]; exact hlt)

end Iter

end CR.VI
