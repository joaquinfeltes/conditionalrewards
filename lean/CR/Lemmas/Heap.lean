/-
The aliasing model `CR/Model/Heap.lean` against the pure model (C10).

Each loop of the aliasing model is carried by `view` (a rebind is a write into the snapshot:
`HState.view_rebind`) to a loop over the cells of an array; such a loop is `mapIdx`, with a `filter`
of the indices, or `mapM` (`foldl_range_update`, `foldl_range_tryCell`), which is how the pure model
is written.  That no step touches the caller's lists is `foldl_keeps`.
-/
import CR.Model.Heap
import CR.Lemmas.Basic

namespace CR.Heap

section Loops
variable {γ ε : Type}

/-- one pass that rewrites cell `s` by `F s` and logs `s` when `G s` holds of the cell before the
write is `mapIdx F` plus a `filter` of the indices -/
theorem foldl_range_update (d : γ) (F : Nat → γ → γ) (G : Nat → γ → Bool) (a : Array γ) :
    (List.range a.size).foldl (fun (p : Array γ × List Nat) s =>
        (p.1.setIfInBounds s (F s (p.1.getD s d)),
          if G s (p.1.getD s d) then p.2 ++ [s] else p.2)) (a, [])
      = (a.mapIdx F, (List.range a.size).filter (fun s => G s (a.getD s d))) := by
  have key := foldl_range_inv (fun (p : Array γ × List Nat) s =>
      (p.1.setIfInBounds s (F s (p.1.getD s d)), if G s (p.1.getD s d) then p.2 ++ [s] else p.2))
    (fun k p => p.1.size = a.size ∧ (∀ i, i < k → p.1.getD i d = F i (a.getD i d)) ∧
      (∀ i, k ≤ i → p.1.getD i d = a.getD i d) ∧
      p.2 = (List.range k).filter (fun s => G s (a.getD s d))) a.size (a, [])
    ⟨rfl, fun i hi => absurd hi (Nat.not_lt_zero i), fun _ _ => rfl, rfl⟩ ?_
  · obtain ⟨hsz, hlt, _, hl⟩ := key
    refine Prod.ext (array_ext_getD d (hsz.trans Array.size_mapIdx.symm) fun i hi => ?_) hl
    have hi' : i < a.size := hsz ▸ hi
    rw [hlt i hi']
    show _ = (a.mapIdx F).getD i d
    simp [Array.getD_eq_getD_getElem?, hi']
  · rintro k ⟨b, l⟩ hk ⟨hsz, hlt, hge, hl⟩
    have hkk : b.getD k d = a.getD k d := hge k (Nat.le_refl k)
    refine ⟨Array.size_setIfInBounds.trans hsz, fun i hi => ?_, fun i hi => ?_, ?_⟩
    · show (b.setIfInBounds k _).getD i d = _
      by_cases hik : k = i
      · subst hik
        rw [getD_set_self _ _ (hsz ▸ hk), hkk]
      · rw [getD_set_ne _ _ hik]
        exact hlt i (Nat.lt_of_le_of_ne (Nat.le_of_lt_succ hi) (Ne.symm hik))
    · show (b.setIfInBounds k _).getD i d = _
      rw [getD_set_ne _ _ (Nat.ne_of_lt hi)]
      exact hge i (Nat.le_of_succ_le hi)
    · show (if G k (b.getD k d) then l ++ [k] else l) = _
      replace hl : l = _ := hl
      rw [hkk, List.range_succ, List.filter_append, hl]
      cases hG : G k (a.getD k d) <;>
        simp only [hG, List.filter_cons, List.filter_nil, Bool.false_eq_true, if_false, if_true,
          List.append_nil]

theorem foldl_range_update_nolog (d : γ) (F : Nat → γ → γ) (a : Array γ) :
    (List.range a.size).foldl (fun a s => a.setIfInBounds s (F s (a.getD s d))) a = a.mapIdx F :=
  (List.foldl_hom Prod.fst (fun _ _ => rfl)).trans
    (congrArg Prod.fst (foldl_range_update d F (fun _ _ => false) a))

/-- `prunePathsStep` seen through `view` (`prunePathsStep_view`): a rewrite of cell `s` that can
fail -/
def tryCell (F : Array γ → Nat → Except ε γ) (p : Array γ × Option ε) (s : Nat) :
    Array γ × Option ε :=
  match p.2 with
  | some _ => p
  | none =>
    match F p.1 s with
    | .error e => (p.1, some e)
    | .ok y => (p.1.setIfInBounds s y, none)

/-- `mapM` applies `F` to the original array, the loop to the current one: they agree because step
`s` reads cell `s` only (`hF`), which no earlier step has written. -/
theorem foldl_range_tryCell (d : γ) (F : Array γ → Nat → Except ε γ)
    (hF : ∀ a b s, a.getD s d = b.getD s d → F a s = F b s) (a : Array γ) :
    (match (List.range a.size).foldl (tryCell F) (a, none) with
      | (b, none) => Except.ok b
      | (_, some e) => .error e) = (Array.range a.size).mapM (F a) := by
  have key := foldl_range_inv (tryCell F)
    (fun k p => p.1.size = a.size ∧
      match p.2 with
      | none => (∀ i, i < k → F a i = .ok (p.1.getD i d)) ∧ ∀ i, k ≤ i → p.1.getD i d = a.getD i d
      | some e => ∃ j, j < k ∧ (∀ i, i < j → ∃ y, F a i = .ok y) ∧ F a j = .error e)
    a.size (a, none) ⟨rfl, fun i hi => absurd hi (Nat.not_lt_zero i), fun _ _ => rfl⟩ ?_
  · generalize List.foldl _ _ _ = r at key
    obtain ⟨b, err⟩ := r
    obtain ⟨hsz, hrest⟩ := key
    cases err with
    | none => exact ((mapM_range_eq_ok _ d).2 ⟨hsz, hrest.1⟩).symm
    | some e => exact ((mapM_range_eq_error _).2 hrest).symm
  · rintro k ⟨b, err⟩ hk ⟨hsz, hrest⟩
    cases err with
    | some e =>
      obtain ⟨j, hj, h⟩ := hrest
      exact ⟨hsz, j, Nat.lt_succ_of_lt hj, h⟩
    | none =>
      obtain ⟨hlt, hge⟩ := hrest
      have hFk : F b k = F a k := hF _ _ _ (hge k (Nat.le_refl k))
      unfold tryCell
      dsimp only
      cases hb : F b k with
      | error e => exact ⟨hsz, k, Nat.lt_succ_self k, fun i hi => ⟨_, hlt i hi⟩, hFk ▸ hb⟩
      | ok y =>
        refine ⟨Array.size_setIfInBounds.trans hsz, fun i hi => ?_, fun i hi => ?_⟩
        · show F a i = .ok ((b.setIfInBounds k y).getD i d)
          by_cases hik : k = i
          · subst hik
            rw [getD_set_self _ _ (hsz ▸ hk), ← hFk, hb]
          · rw [getD_set_ne _ _ hik]
            exact hlt i (Nat.lt_of_le_of_ne (Nat.le_of_lt_succ hi) (Ne.symm hik))
        · show (b.setIfInBounds k y).getD i d = _
          rw [getD_set_ne _ _ (Nat.ne_of_lt hi)]
          exact hge i (Nat.le_of_succ_le hi)

end Loops

end CR.Heap

namespace CR
namespace HState
variable {α : Type}

@[simp] theorem rebind_desc (h : HState α) (s : Nat) (l : List (Tr α)) :
    (h.rebind s l).desc = h.desc := rfl

@[simp] theorem rebind_size (h : HState α) (s : Nat) (l : List (Tr α)) :
    (h.rebind s l).nodes.size = h.nodes.size := by
  simp [rebind]

@[simp] theorem view_size (h : HState α) : h.view.size = h.nodes.size := by
  simp [view]

theorem view_getD (h : HState α) (s : Nat) : h.view.getD s [] = h.read s := by
  unfold view read
  rw [Array.getD_eq_getD_getElem?, Array.getElem?_map]
  cases h.nodes[s]? <;> rfl

@[simp] theorem init_desc (tl : Array (List (Tr α))) : (init tl).desc = tl := rfl

@[simp] theorem init_size (tl : Array (List (Tr α))) : (init tl).nodes.size = tl.size := by
  simp [init]

theorem init_view (tl : Array (List (Tr α))) : (init tl).view = tl := by
  apply Array.ext
  · simp
  · intro i h1 h2
    simp [view, init, deref, Array.getD, h2]

theorem init_read (tl : Array (List (Tr α))) (s : Nat) : (init tl).read s = tl.getD s [] := by
  rw [← view_getD, init_view]

theorem view_rebind (h : HState α) (s : Nat) (l : List (Tr α)) :
    (h.rebind s l).view = h.view.setIfInBounds s l :=
  Array.map_setIfInBounds

theorem view_set_read (h : HState α) (s : Nat) : h.view.setIfInBounds s (h.read s) = h.view :=
  view_getD h s ▸ CR.setIfInBounds_getD_self h.view s []

end HState

end CR

namespace CR.Heap
open CR CR.HState

section Phases
variable {α : Type}

theorem pruneReachabilityH_desc (owners : Array Owner) (strat : Array Strat) (h : HState α) :
    (pruneReachabilityH owners strat h).desc = h.desc :=
  foldl_keeps _ HState.desc (fun x s => by cases owners.getD s .prob <;> rfl) _ h

theorem pruneReachabilityH_view (owners : Array Owner) (strat : Array Strat) (h : HState α) :
    (pruneReachabilityH owners strat h).view = pruneReachability owners strat h.view := by
  unfold pruneReachabilityH pruneReachability
  rw [← view_size h, ← foldl_range_update_nolog [] _ h.view]
  refine (List.foldl_hom HState.view fun x s => ?_).symm
  rw [view_getD]
  cases owners.getD s .prob
  · exact view_set_read x s
  · exact (view_rebind _ _ _).symm
  · exact view_set_read x s

theorem pruneStatesRoundH_eq (owners : Array Owner) (h : HState α) :
    pruneStatesRoundH owners h =
      (List.range h.nodes.size).foldl (fun (acc : HState α × List Nat) s =>
        if cleared owners h.view s then (acc.1.rebind s [], acc.2 ++ [s])
        else if (owners.getD s .prob == .p1) && (acc.1.read s).isEmpty &&
            !((roundTargets h.view).contains s) then (acc.1, acc.2 ++ [s])
        else acc) (h, []) := rfl

theorem pruneStatesRoundH_desc (owners : Array Owner) (h : HState α) :
    (pruneStatesRoundH owners h).1.desc = h.desc := by
  rw [pruneStatesRoundH_eq]
  refine foldl_keeps _ (fun p : HState α × List Nat => p.1.desc) (fun p s => ?_) _ (h, [])
  by_cases hc : cleared owners h.view s = true
  · rw [if_pos hc]; rfl
  · rw [if_neg hc]
    split <;> rfl

theorem pruneStatesRoundH_view (owners : Array Owner) (h : HState α) :
    ((pruneStatesRoundH owners h).1.view, (pruneStatesRoundH owners h).2) =
      pruneStatesRound owners h.view := by
  rw [pruneStatesRoundH_eq, pruneStatesRound_eq, ← view_size h]
  refine Eq.trans ?_ (foldl_range_update [] (fun s row => if cleared owners h.view s then [] else row)
    (fun s row => cleared owners h.view s ||
      ((owners.getD s .prob == .p1) && row.isEmpty && !((roundTargets h.view).contains s))) h.view)
  refine (List.foldl_hom (fun p : HState α × List Nat => (p.1.view, p.2)) fun p s => ?_).symm
  obtain ⟨x, l⟩ := p
  dsimp only
  rw [view_getD]
  by_cases hc : cleared owners h.view s = true
  · rw [if_pos hc, if_pos hc, hc, Bool.true_or, if_pos rfl, view_rebind]
  · rw [if_neg hc, if_neg hc, Bool.eq_false_iff.2 hc, Bool.false_or, view_set_read]
    split <;> rfl

theorem pruneStatesHS_desc (owners : Array Owner) :
    ∀ (fuel : Nat) (prev : List Nat) (h : HState α),
      (pruneStatesHS owners fuel prev h).1.desc = h.desc := by
  intro fuel
  induction fuel with
  | zero => intro prev h; rfl
  | succ n ih =>
    intro prev h
    unfold pruneStatesHS
    simp only
    split
    · exact pruneStatesRoundH_desc owners h
    · rw [ih]; exact pruneStatesRoundH_desc owners h

theorem pruneStatesHS_view (owners : Array Owner) :
    ∀ (fuel : Nat) (prev : List Nat) (h : HState α),
      (pruneStatesHS owners fuel prev h).toExcept.map HState.view =
        pruneStates owners fuel prev h.view := by
  intro fuel
  induction fuel with
  | zero => intro prev h; rfl
  | succ n ih =>
    intro prev h
    unfold pruneStatesHS pruneStates
    rw [← pruneStatesRoundH_view]
    dsimp only
    split
    · rfl
    · exact ih _ _

variable [Add α] [Div α] [BEq α] [OfNat α 0]

theorem prunePathsHS_desc (owners : Array Owner) (reach : Array α) (h : HState α) :
    (prunePathsHS owners reach h).1.desc = h.desc := by
  refine foldl_keeps _ (fun p : HRes α => p.1.desc) ?_ _ (h, none)
  rintro ⟨x, err⟩ s
  cases err with
  | some e => rfl
  | none =>
    unfold prunePathsStep
    dsimp only
    cases owners.getD s .prob with
    | p1 => rfl
    | p2 => rfl
    | prob =>
      dsimp only
      cases prunePathsProb reach (x.read s) with
      | error e => rfl
      | ok row' => dsimp only; split <;> rfl

/-- Where the heap keeps the attribute as it is (Player 2; a probabilistic row that lost nothing,
which `prunePathsProb` returns unchanged) the loop over the cells writes the cell back. -/
theorem prunePathsStep_view (owners : Array Owner) (reach : Array α) (p : HRes α) (s : Nat) :
    tryCell (pruneRow owners reach) (p.1.view, p.2) s =
      ((prunePathsStep owners reach p s).1.view, (prunePathsStep owners reach p s).2) := by
  obtain ⟨x, err⟩ := p
  cases err with
  | some e => rfl
  | none =>
    have hself := view_set_read x s
    unfold prunePathsStep tryCell pruneRow
    dsimp only
    rw [view_getD]
    cases owners.getD s .prob with
    | p1 => exact congrArg (·, none) (view_rebind _ _ _).symm
    | p2 => exact congrArg (·, none) hself
    | prob =>
      dsimp only
      cases hp : prunePathsProb reach (x.read s) with
      | error e => rfl
      | ok row' =>
        dsimp only
        by_cases hl : ((x.read s).filter (fun t => !(reach.getD t.tgt 0 == 0))).length
            = (x.read s).length
        · rw [prunePathsProb_of_len_eq reach _ hl] at hp
          cases hp
          rw [if_neg (not_not_intro hl)]
          exact congrArg (·, none) hself
        · rw [if_pos hl]
          exact congrArg (·, none) (view_rebind _ _ _).symm

theorem prunePathsHS_view (owners : Array Owner) (reach : Array α) (h : HState α) :
    (prunePathsHS owners reach h).toExcept.map HState.view = prunePaths owners reach h.view := by
  unfold prunePathsHS
  rw [← view_size h]
  rw [prunePaths_eq]
  refine Eq.trans ?_ (foldl_range_tryCell [] (pruneRow owners reach)
    (fun a b s hab => by unfold pruneRow; rw [hab]) h.view)
  rw [List.foldl_hom (fun p : HRes α => (p.1.view, p.2)) (init := (h, none))
    (prunePathsStep_view owners reach)]
  generalize List.foldl _ _ _ = r
  obtain ⟨x, err⟩ := r
  cases err <;> rfl

theorem conditionHS_desc (prune : Bool) (g : Game α) (strat : Array Strat) (reach : Array α)
    (h : HState α) : (conditionHS prune g strat reach h).1.desc = h.desc := by
  unfold conditionHS
  have h1 := pruneReachabilityH_desc g.owners strat h
  cases prune with
  | false => exact h1
  | true =>
    simp only [if_true]
    have h2 := prunePathsHS_desc g.owners reach (pruneReachabilityH g.owners strat h)
    generalize prunePathsHS g.owners reach (pruneReachabilityH g.owners strat h) = r at h2
    obtain ⟨x, err⟩ := r
    replace h2 : x.desc = (pruneReachabilityH g.owners strat h).desc := h2
    cases err with
    | some e => exact h2.trans h1
    | none =>
      simp only
      rw [pruneStatesHS_desc, h2, h1]

theorem conditionH_view (prune : Bool) (g : Game α) (strat : Array Strat) (reach : Array α)
    (h : HState α) :
    (conditionH prune g strat reach h).map HState.view =
      condition prune { g with tl := h.view } strat reach := by
  unfold conditionH conditionHS condition
  cases prune with
  | false =>
    simp only [Bool.false_eq_true, if_false]
    show Except.ok (pruneReachabilityH g.owners strat h).view = _
    rw [pruneReachabilityH_view]
    rfl
  | true =>
    simp only [if_true]
    have hpv := prunePathsHS_view g.owners reach (pruneReachabilityH g.owners strat h)
    rw [pruneReachabilityH_view] at hpv
    show _ = (prunePaths g.owners reach (pruneReachability g.owners strat h.view) >>=
      fun nodes => pruneStates g.owners (g.owners.size + 2) [] nodes)
    rw [← hpv]
    generalize prunePathsHS g.owners reach (pruneReachabilityH g.owners strat h) = r
    obtain ⟨x, err⟩ := r
    cases err with
    | some e => rfl
    | none => exact pruneStatesHS_view g.owners _ _ x

theorem conditionH_init_view (prune : Bool) (g : Game α) (strat : Array Strat) (reach : Array α) :
    (conditionH prune g strat reach (HState.init g.tl)).map HState.view =
      condition prune g strat reach := by
  rw [conditionH_view, init_view]

end Phases

section Solve
variable {α : Type} [Add α] [Sub α] [Mul α] [Div α] [Neg α] [LT α] [DecidableLT α]
  [LE α] [DecidableLE α] [BEq α] [OfNat α 0] [OfNat α 1]

set_option linter.unusedSectionVars false in
theorem read_lt_view (h : HState α) (s : Nat) : h.read s = h.view.getD s [] := (view_getD h s).symm

theorem solveHS_eq (rnd : α → Int) (thr : α) (fuel : Nat) (prune : Bool) (g : Game α) :
    solveHS rnd thr fuel prune g = (solve rnd thr fuel prune g, g.tl) := by
  unfold solveHS solve
  simp only
  cases solveReach rnd thr fuel prune g with
  | error e => rfl
  | ok ro =>
    simp only
    have hd := conditionHS_desc prune g ro.strat ro.probs (HState.init g.tl)
    have hc := conditionH_init_view prune g ro.strat ro.probs
    unfold conditionH at hc
    show _ = (condition prune g ro.strat ro.probs >>= _, g.tl)
    rw [← hc]
    generalize conditionHS prune g ro.strat ro.probs (HState.init g.tl) = r at hd
    obtain ⟨x, err⟩ := r
    replace hd : x.desc = g.tl := hd
    cases err with
    | some e => exact congrArg (Prod.mk _) hd
    | none =>
      show _ = (viRew rnd g.owners g.rewards x.view ro.probs thr fuel 1
        { er := g.rewards, ermr := g.rewards, pmr := ro.probs } 0 >>= _, g.tl)
      simp only
      cases viRew rnd g.owners g.rewards x.view ro.probs thr fuel 1
        { er := g.rewards, ermr := g.rewards, pmr := ro.probs } 0 with
      | error e => exact congrArg (Prod.mk _) hd
      | ok vj => exact congrArg (Prod.mk _) hd

theorem solveH_eq (rnd : α → Int) (thr : α) (fuel : Nat) (prune : Bool) (g : Game α) :
    solveH rnd thr fuel prune g = (solve rnd thr fuel prune g).map (fun out => (out, g.tl)) := by
  unfold solveH
  rw [solveHS_eq]
  cases solve rnd thr fuel prune g <;> rfl

end Solve
end CR.Heap
