/-
The vocabulary of `CR/Props/C08Bisim.lean` (the notions are explained there) and what an
order-preserving bisimulation implies for any two systems.
-/
import CR.Spec.Roborta
import Mathlib.Logic.Relation
import Mathlib.Data.List.Forall2

namespace CR.C08

open CR CR.Gen CR.Roborta

/-- a labelled transition system with observations: `obs s` is (owner, reward, "is final"),
`next s` the ordered list of (label, target) with label = (action name, probability) -/
structure LTS (σ α : Type) where
  obs  : σ → Owner × Nat × Prop
  next : σ → List ((String × α) × σ)

/-- "is a target of a transition" -/
def LTS.Step {σ α : Type} (A : LTS σ α) (s s' : σ) : Prop := ∃ x ∈ A.next s, x.2 = s'

/-- strong, order-preserving bisimulation: equal observations; successor lists of equal length
with position-wise equal labels and related targets -/
def Bisim {σ τ α : Type} (A : LTS σ α) (B : LTS τ α) (R : σ → τ → Prop) : Prop :=
  ∀ s n, R s n →
    A.obs s = B.obs n ∧
    List.Forall₂ (fun x y => x.1 = y.1 ∧ R x.2 y.2) (A.next s) (B.next n)

section
variable {α : Type} [Sub α] [OfNat α 0] [OfNat α 1]

/-- (i) the specification as an LTS -/
def specLTS (v : Variant) (L W : Nat) (b : Board) (q : Params α) : LTS RState α where
  obs s := (owner s, reward b s, s = .win)
  next s := (rules v L W b q s).map (fun x => ((x.act, x.p), x.tgt))

/-- (ii) a generated game as an LTS -/
def genLTS (G : GenGame α) : LTS Nat α where
  obs n := (G.owners.getD n .prob, G.rewards.getD n 0, n ∈ G.finals)
  next n := (G.tl.getD n []).map (fun t => ((t.act, t.p), t.tgt))

/-- the relation of C08: a valid situation and its number -/
def EncRel (v : Variant) (L W : Nat) (b : Board) (s : RState) (n : Nat) : Prop :=
  Valid v L W b s ∧ n = enc v L W s

end

section Generic
variable {σ τ α : Type} {A : LTS σ α} {B : LTS τ α} {R : σ → τ → Prop}

theorem Bisim.length_eq (h : Bisim A B R) {s : σ} {n : τ} (hr : R s n) :
    (A.next s).length = (B.next n).length :=
  (h s n hr).2.length_eq

theorem Bisim.pointwise (h : Bisim A B R) {s : σ} {n : τ} (hr : R s n) (i : Nat)
    (hi : i < (A.next s).length) (hi' : i < (B.next n).length) :
    ((A.next s)[i]).1 = ((B.next n)[i]).1 ∧ R ((A.next s)[i]).2 ((B.next n)[i]).2 :=
  (h s n hr).2.get hi hi'

theorem Bisim.symm (h : Bisim A B R) : Bisim B A (fun n s => R s n) := fun n s hr =>
  ⟨(h s n hr).1.symm, (h s n hr).2.flip.imp fun _ _ hxy => ⟨hxy.1.symm, hxy.2⟩⟩

/-- ordinary strong bisimulation, forth -/
theorem Bisim.forth (h : Bisim A B R) {s : σ} {n : τ} (hr : R s n) :
    ∀ x ∈ A.next s, ∃ y ∈ B.next n, x.1 = y.1 ∧ R x.2 y.2 := by
  intro x hx
  obtain ⟨i, hi, rfl⟩ := List.getElem_of_mem hx
  have hi' : i < (B.next n).length := h.length_eq hr ▸ hi
  exact ⟨_, List.getElem_mem hi', h.pointwise hr i hi hi'⟩

/-- ordinary strong bisimulation, back -/
theorem Bisim.back (h : Bisim A B R) {s : σ} {n : τ} (hr : R s n) :
    ∀ y ∈ B.next n, ∃ x ∈ A.next s, x.1 = y.1 ∧ R x.2 y.2 := fun y hy =>
  let ⟨x, hx, hl, hxy⟩ := h.symm.forth hr y hy
  ⟨x, hx, hl.symm, hxy⟩

/-- for a chance state: the same sequence of probabilities, attached position-wise to related targets -/
theorem Bisim.labels_eq (h : Bisim A B R) {s : σ} {n : τ} (hr : R s n) :
    (A.next s).map (·.1) = (B.next n).map (·.1) := by
  rw [← List.forall₂_eq_eq_eq, List.forall₂_map_left_iff, List.forall₂_map_right_iff]
  exact (h s n hr).2.imp fun _ _ hxy => hxy.1

theorem Bisim.reach_left (h : Bisim A B R) {s₀ : σ} {n₀ : τ} (h₀ : R s₀ n₀) {s : σ}
    (hs : Relation.ReflTransGen A.Step s₀ s) :
    ∃ n, Relation.ReflTransGen B.Step n₀ n ∧ R s n := by
  induction hs with
  | refl => exact ⟨n₀, .refl, h₀⟩
  | tail _ hstep ih =>
    obtain ⟨n, hn, hr⟩ := ih
    obtain ⟨x, hx, rfl⟩ := hstep
    obtain ⟨y, hy, _, hxy⟩ := h.forth hr x hx
    exact ⟨y.2, .tail hn ⟨y, hy, rfl⟩, hxy⟩

theorem Bisim.reach_right (h : Bisim A B R) {s₀ : σ} {n₀ : τ} (h₀ : R s₀ n₀) {n : τ}
    (hn : Relation.ReflTransGen B.Step n₀ n) :
    ∃ s, Relation.ReflTransGen A.Step s₀ s ∧ R s n :=
  h.symm.reach_left h₀ hn

end Generic

end CR.C08
