/-
On conditioned transition lists that are acyclic apart from absorbing zero-reward self-loops
(`Ranked`) the reward equations have exactly one solution that is 0 at the absorbing states
(`ExactRew`; `Brew` is a `VI.RankedOp`).  Last (here because it needs `LinearOrder`, which
`CR/Lemmas/Strat.lean` does without), the arg-max / arg-min lists of rounded values are those of
the values themselves when the rounding is strictly monotone on them.
-/
import CR.Lemmas.Rew
import CR.Lemmas.Term
import CR.Lemmas.RankedOp

namespace CR.Rank

open CR CR.VI CR.Rew CR.C06

variable {K : Type} [Field K] [LinearOrder K] [IsStrictOrderedRing K] {o : Array Owner}
  {rewards : Array K} {nodes : Array (List (Tr K))} {rk : Nat → Nat} {R : Nat}

/-- `w` solves the reward equations of the game with transition lists `nodes` exactly: it is a
fixed point of the Bellman operator `Brew` at every state, and it is 0 at the absorbing states
(where the equation `w[s] = 0 + 1·w[s]` says nothing) -/
def ExactRew (o : Array Owner) (rewards : Array K) (nodes : Array (List (Tr K))) (w : Array K) :
    Prop :=
  (∀ s < o.size, Brew o rewards nodes w s = w.getD s 0) ∧
    ∀ s < o.size, Absorbing o rewards nodes s → w.getD s 0 = 0

theorem Ranked.op (hrk : Ranked o rewards nodes rk R) :
    RankedOp o.size nodes (Absorbing o rewards nodes) rk (Brew o rewards nodes) :=
  ⟨hrk.step, fun _ _ _ => Brew_congr⟩

theorem exactRew_exists (hrk : Ranked o rewards nodes rk R) :
    ∃ w : Array K, w.size = o.size ∧ ExactRew o rewards nodes w :=
  hrk.op.exists_fix hrk.bound (fun _ => 0) fun _ _ ha x hx => (Brew_absorbing ha x).trans hx

section ArgMax
variable {α : Type} [LinearOrder α]

theorem rnd_le_iff {ι : Type} (rnd : α → Int) {val : ι → α} {row : List ι}
    (hmono : ∀ t ∈ row, ∀ t' ∈ row, val t < val t' → rnd (val t) < rnd (val t')) {t u : ι}
    (ht : t ∈ row) (hu : u ∈ row) : rnd (val t) ≤ rnd (val u) ↔ val t ≤ val u :=
  ⟨fun h => not_lt.mp fun hlt => absurd h (not_le.mpr (hmono u hu t ht hlt)),
    fun h => h.lt_or_eq.elim (fun hlt => (hmono t ht u hu hlt).le) fun e => (congrArg rnd e).le⟩

variable [OfNat α 0]

theorem argmax_rnd_eq (rnd : α → Int) (w : Array α) (row : List (Tr α))
    (hmono : ∀ t ∈ row, ∀ t' ∈ row, w.getD t.tgt 0 < w.getD t'.tgt 0 →
      rnd (w.getD t.tgt 0) < rnd (w.getD t'.tgt 0))
    (hnn : ∀ t ∈ row, 0 ≤ rnd (w.getD t.tgt 0)) :
    row.filter (fun t => rnd (w.getD t.tgt 0) ==
        row.foldl (fun m t => max m (rnd (w.getD t.tgt 0))) 0) =
      row.filter (fun t => decide (∀ t' ∈ row, w.getD t'.tgt 0 ≤ w.getD t.tgt 0)) := by
  refine List.filter_congr fun t ht => ?_
  rw [Bool.eq_iff_iff, beq_iff_eq, decide_eq_true_eq]
  have key := key_eq_runBest_iff (fun t : Tr α => rnd (w.getD t.tgt 0)) StrictTotal.gt row 0 ht
  rw [← runMax_eq] at key
  -- listed = beaten neither by the clamp 0 (`hnn`) nor by a member of the row
  exact key.trans ⟨fun h u hu => (rnd_le_iff rnd hmono hu ht).1 (Int.not_lt.1 (h.2 u hu)),
    fun h => ⟨Int.not_lt.2 (hnn t ht),
      fun u hu => Int.not_lt.2 ((rnd_le_iff rnd hmono hu ht).2 (h u hu))⟩⟩

theorem argmin_rnd_eq (rnd : α → Int) (w : Array α) (t0 : Tr α) (rest : List (Tr α))
    (hmono : ∀ t ∈ t0 :: rest, ∀ t' ∈ t0 :: rest, w.getD t.tgt 0 < w.getD t'.tgt 0 →
      rnd (w.getD t.tgt 0) < rnd (w.getD t'.tgt 0)) :
    (t0 :: rest).filter (fun t => rnd (w.getD t.tgt 0) ==
        (t0 :: rest).foldl (fun m t => min m (rnd (w.getD t.tgt 0))) (rnd (w.getD t0.tgt 0))) =
      (t0 :: rest).filter
        (fun t => decide (∀ t' ∈ t0 :: rest, w.getD t.tgt 0 ≤ w.getD t'.tgt 0)) := by
  refine List.filter_congr fun t ht => ?_
  rw [Bool.eq_iff_iff, beq_iff_eq, decide_eq_true_eq]
  have key := key_eq_runBest_iff (fun t : Tr α => rnd (w.getD t.tgt 0)) StrictTotal.lt (t0 :: rest)
    (rnd (w.getD t0.tgt 0)) ht
  rw [← runMin_eq] at key
  -- the start value is that of the member `t0`
  refine key.trans ⟨fun h u hu => (rnd_le_iff rnd hmono ht hu).1 (Int.not_lt.1 (h.2 u hu)),
    fun h => ?_⟩
  have hle := fun u hu => Int.not_lt.2 ((rnd_le_iff rnd hmono ht hu).2 (h u hu))
  exact ⟨hle t0 List.mem_cons_self, hle⟩

end ArgMax

namespace Examples
open CR.Examples CR.Rew.Examples

/-- ranks of the conditioned lists `g7nodes` of the 7-state game: `0 → 1 → 3 → 5`, state 5 (the
final state) is absorbing, states 2, 4, 6 are emptied -/
def rk7 : Nat → Nat := fun s => if s = 0 then 2 else if s = 1 then 1 else 0

theorem g7_ranked : Ranked g7.owners g7.rewards g7nodes rk7 2 :=
  ranked_of_range (by decide +kernel)

/-- the run of the 6-state game (pruning on): three sweeps of the reward loop -/
theorem g6_run : ∃ out, solve (roundRat 6) thr 1000 true g6 = .ok out ∧
    out.rewards = g6vecs.er ∧ out.rewMinReach = g6vecs.ermr ∧ out.probMinRew = g6vecs.pmr ∧
    out.itRew = 3 ∧ out.probs = g6probs ∧ out.nodes = g6nodes ∧
    out.finalStrat = #[some ["c"], some ["x", "y"], none, none, none, none] :=
  ⟨_, g6_solve_true, rfl, rfl, rfl, rfl, rfl, rfl, rfl⟩

/-- ranks of the conditioned lists `g6nodes`: `0 → {1, 2, 3}`, `1 → {4, 2}`, `2 → 4`, `3 → 4`,
state 4 (the final state) is absorbing, state 5 is emptied -/
def rk6 : Nat → Nat := fun s => if s = 0 then 2 else if s = 1 then 1 else 0

theorem g6_ranked : Ranked g6.owners g6.rewards g6nodes rk6 2 :=
  ranked_of_range (by decide +kernel)

/-- a chain `0 → 1 → 2 → 3` of probabilistic states with rewards 1/4, 1/4, 1/4, 0 into the
absorbing state 3: with threshold 1/2 the reward loop stops after ONE sweep (reported change 1/4)
at the value 1/2 for state 0, whose exact expected reward is 3/4 -/
def chainO : Array Owner := #[.prob, .prob, .prob, .prob]
def chainR : Array Rat := #[1/4, 1/4, 1/4, 0]
def chainN : Array (List (Tr Rat)) := #[[tr "" 1 1], [tr "" 1 2], [tr "" 1 3], [tr "" 1 3]]

theorem chain_ranked : Ranked chainO chainR chainN (fun s => 3 - s) 3 :=
  ranked_of_range (by decide +kernel)

end Examples

end CR.Rank
