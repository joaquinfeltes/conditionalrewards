/-
Helper lemmas on the decimal rendering of naturals and on the shape of generated file names
(model: `CR/Model/Gen.lean`; used by `CR/Props/C17.lean`).  A name is a fixed prefix followed by
fields `decimal ++ non-digit label`: `field_split` cuts one field with `Chars.split_unique`, and
`fileNameN_injective` peels the eight fields and the suffix.
-/
import CR.Model.Gen
import CR.Lemmas.Chars

namespace CR.NamesLemmas
open CR CR.Gen

/-- the decimal digits of `n`, as characters -/
abbrev dig (n : Nat) : List Char := Nat.toDigits 10 n

theorem toString_toList (n : Nat) : (toString n).toList = dig n := by
  simp

theorem dig_isDigit {n : Nat} {c : Char} (h : c ∈ dig n) : c.isDigit = true :=
  Nat.isDigit_of_mem_toDigits (by decide) (by decide) h

theorem dig_injective {a b : Nat} (h : dig a = dig b) : a = b :=
  Chars.toDigits_inj h

/-- one field of a name: decimal number followed by a non-digit -/
theorem field_split {a b : Nat} {c c' : Char} {r r' : List Char}
    (hc : c.isDigit = false) (hc' : c'.isDigit = false)
    (h : dig a ++ c :: r = dig b ++ c' :: r') : a = b ∧ c :: r = c' :: r' := by
  obtain ⟨hd, hr⟩ := Chars.split_unique (D := fun x => x.isDigit = false)
    (fun x hx e => by rw [dig_isDigit hx] at e; cases e)
    (fun x hx e => by rw [dig_isDigit hx] at e; cases e)
    (Chars.tail_cons _ hc) (Chars.tail_cons _ hc') h
  exact ⟨dig_injective hd, hr⟩

/-- the same when both sides continue with the label `c :: t` -/
theorem field_label {a b : Nat} {c : Char} (t : List Char) {r r' : List Char}
    (hc : c.isDigit = false) (h : dig a ++ c :: (t ++ r) = dig b ++ c :: (t ++ r')) :
    a = b ∧ r = r' :=
  let ⟨e, h'⟩ := field_split hc hc h
  ⟨e, List.append_cancel_left (List.cons.inj h').2⟩

theorem fileName_eq_fileNameN (s w l m : Nat) (pr pl pt plo : Float) (fd : Bool) :
    fileName s w l m pr pl pt plo fd
      = fileNameN s w l m (probToNat pr) (probToNat pl) (probToNat pt) (probToNat plo) fd := rfl

/-- what follows the last number of a file name -/
def suffix (fd : Bool) : List Char := if fd then "_force_down.py".toList else ".py".toList

theorem fileNameN_toList (s w l m a b c d : Nat) (fd : Bool) :
    (fileNameN s w l m a b c d fd).toList =
      "inputs/robot_".toList ++ (dig s ++ '_' :: 'w' :: (dig w ++ '_' :: 'l' :: (dig l ++ '_' :: 'r' ::
        (dig m ++ '_' :: 'r' :: 'b' :: (dig a ++ '_' :: 'l' :: 'b' :: (dig b ++ '_' :: 't' :: 'b' ::
          (dig c ++ '_' :: 'l' :: 't' :: (dig d ++ suffix fd)))))))) := by
  -- `rw [String.toList_ofList]` reads a literal as the `String.ofList [c₁, …]` it abbreviates and yields its
  -- characters at once; evaluating `toList` on a literal (`simp`, `decide`) decodes it byte by byte
  have hs : (if fd = true then "_force_down" else "").toList ++ ".py".toList = suffix fd := by
    cases fd
    · exact List.nil_append _
    · show "_force_down".toList ++ ".py".toList = "_force_down.py".toList
      repeat rw [String.toList_ofList]
      rfl
  unfold fileNameN
  simp only [String.toList_append, toString_toList]
  -- `rw` reassociates at the root, one step per piece; `simp only` works from the inside and moves
  -- every piece past all that follow
  repeat rw [List.append_assoc]
  rw [hs]
  repeat rw [String.toList_ofList]
  rfl

theorem suffix_inj {a b : Nat} {fd fd' : Bool}
    (h : dig a ++ suffix fd = dig b ++ suffix fd') : a = b ∧ fd = fd' := by
  cases fd <;> cases fd' <;> simp only [suffix, Bool.false_eq_true, if_true, if_false] at h <;>
    repeat rw [String.toList_ofList] at h
  · exact ⟨(field_split (by decide) (by decide) h).1, rfl⟩
  · exact absurd (List.cons.inj (field_split (by decide) (by decide) h).2).1 (by decide)
  · exact absurd (List.cons.inj (field_split (by decide) (by decide) h).2).1 (by decide)
  · exact ⟨(field_split (by decide) (by decide) h).1, rfl⟩

theorem fileNameN_injective {s w l m a b c d s' w' l' m' a' b' c' d' : Nat} {fd fd' : Bool}
    (h : fileNameN s w l m a b c d fd = fileNameN s' w' l' m' a' b' c' d' fd') :
    s = s' ∧ w = w' ∧ l = l' ∧ m = m' ∧ a = a' ∧ b = b' ∧ c = c' ∧ d = d' ∧ fd = fd' := by
  have h0 := congrArg String.toList h
  rw [fileNameN_toList, fileNameN_toList] at h0
  have h1 := field_label ['w'] (by decide) (List.append_cancel_left h0)
  have h2 := field_label ['l'] (by decide) h1.2
  have h3 := field_label ['r'] (by decide) h2.2
  have h4 := field_label ['r', 'b'] (by decide) h3.2
  have h5 := field_label ['l', 'b'] (by decide) h4.2
  have h6 := field_label ['t', 'b'] (by decide) h5.2
  have h7 := field_label ['l', 't'] (by decide) h6.2
  have h8 := suffix_inj h7.2
  exact ⟨h1.1, h2.1, h3.1, h4.1, h5.1, h6.1, h7.1, h8.1, h8.2⟩

end CR.NamesLemmas
