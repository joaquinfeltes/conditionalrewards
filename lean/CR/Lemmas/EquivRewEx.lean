/-
Concrete data for the non-vacuity examples of `CR.Props.C13Rew`: a five-state game `exH` over
`Rat`, a re-presentation `exH'` of it, and the two runs of `solve` on them (threshold 0, pruning
on), each evaluated by the kernel once, here, so that the examples project from it.

`exH`: 0 Player 1 (`l` to 1, `r` to 2), 1 probabilistic (1/2 to the final state 3, 1/2 to the
sink 4), 2 Player 2 (`u` to 3, `d` to 1), 3 final and absorbing, 4 an absorbing sink; state
rewards 1, 2, 3, 0, 0.  Reachability values 1/2, 1/2, 1/2, 1, 0.  Conditioning removes the
transition 1 → 4 (renormalised: 1 → 3 with probability 1) and empties the dead sink 4.  The
conditioned lists are ranked (3 absorbing; ranks 2, 0, 1 for the states 0, 1, 2); expected rewards
4, 2, 3, 0, 0; final strategies `r` at state 0 and `u` at state 2.
-/
import CR.Lemmas.EquivRew
import CR.Props.C02
import CR.Props.C13

namespace CR.Present.Examples

open CR CR.VI CR.Rew CR.C06 CR.Rank CR.Present CR.C13

def exH : Game Rat where
  rewards := #[1, 2, 3, 0, 0]
  owners := #[.p1, .prob, .p2, .prob, .prob]
  tl := #[[⟨"l", 0, 1⟩, ⟨"r", 0, 2⟩], [⟨"a", 1/2, 3⟩, ⟨"a", 1/2, 4⟩],
          [⟨"u", 0, 3⟩, ⟨"d", 0, 1⟩], [⟨"a", 1, 3⟩], [⟨"a", 1, 4⟩]]
  finals := [3]

/-- `exH` with states 1 and 2 swapped (`exπ`), the rows of (old) states 0, 1, 2 reordered, and
every action prefixed with `z_` (`exρ`) -/
def exH' : Game Rat where
  rewards := #[1, 3, 2, 0, 0]
  owners := #[.p1, .p2, .prob, .prob, .prob]
  tl := #[[⟨"z_r", 0, 1⟩, ⟨"z_l", 0, 2⟩], [⟨"z_d", 0, 2⟩, ⟨"z_u", 0, 3⟩],
          [⟨"z_a", 1/2, 4⟩, ⟨"z_a", 1/2, 3⟩], [⟨"z_a", 1, 3⟩], [⟨"z_a", 1, 4⟩]]
  finals := [3]

theorem exH_presents : Presents exπ exρ exH exH' where
  n_owners := rfl
  n_tl := rfl
  n_rewards := rfl
  maps := by decide +kernel
  inj := by decide +kernel
  fix0 := rfl
  owners := by decide +kernel
  rewards := by decide +kernel
  rows := by decide +kernel
  finals := by decide +kernel
  ρ_inj := fun _ _ hab => (String.append_right_inj "z_").mp hab

theorem exH_wf : C01.WF exH := by decide +kernel

theorem exG_rewRel :
    RewRel exπ exρ exG.owners exG'.owners exG.rewards exG'.rewards exG.tl exG'.tl where
  n_owners := rfl
  maps := by decide +kernel
  inj := by decide +kernel
  owners := by decide +kernel
  rewards := by decide +kernel
  rows := by decide +kernel
  tgt := by decide +kernel

theorem exH_ord : gameOrder exH = [0, 1, 2] :=
  RdfsLemmas.reverseDfs_eq_of 20 (all := [2, 0, 1, 3]) (by decide +kernel) (by decide) (by decide)

theorem exH'_ord : gameOrder exH' = [0, 1, 2] :=
  RdfsLemmas.reverseDfs_eq_of 20 (all := [2, 0, 1, 3]) (by decide +kernel) (by decide) (by decide)

/-- the conditioned lists of `exH` (pruning on) -/
def exHnodes : Array (List (Tr Rat)) :=
  #[[⟨"l", 0, 1⟩, ⟨"r", 0, 2⟩], [⟨"a", 1, 3⟩], [⟨"u", 0, 3⟩, ⟨"d", 0, 1⟩], [⟨"a", 1, 3⟩],
    []]

/-- the conditioned lists of `exH'` (pruning on) -/
def exHnodes' : Array (List (Tr Rat)) :=
  #[[⟨"z_r", 0, 1⟩, ⟨"z_l", 0, 2⟩], [⟨"z_d", 0, 2⟩, ⟨"z_u", 0, 3⟩], [⟨"z_a", 1, 3⟩],
    [⟨"z_a", 1, 3⟩], []]

/-- One kernel evaluation of `(solve …).toOption.map f`, with `f` the four reported fields as nested
pairs; `exists_ok_of_toOption_map` turns it into a run and an equation between the pairs. -/
theorem exH_solve : ∃ out, solve (roundRat 6) (0 : Rat) 10 true exH = .ok out ∧
    ((out.rewards, out.probs), (out.nodes, out.finalStrat)) =
      ((#[4, 2, 3, 0, 0], #[1/2, 1/2, 1/2, 1, 0]),
        (exHnodes, #[some ["r"], none, some ["u"], none, none])) :=
  exists_ok_of_toOption_map (by
    unfold solve solveReach
    rw [show reverseDfs _ exH.finals = [0, 1, 2] from exH_ord]
    decide +kernel)

theorem exH'_solve : ∃ out, solve (roundRat 6) (0 : Rat) 10 true exH' = .ok out ∧
    ((out.rewards, out.probs), (out.nodes, out.finalStrat)) =
      ((#[4, 3, 2, 0, 0], #[1/2, 1/2, 1/2, 1, 0]),
        (exHnodes', #[some ["z_r"], some ["z_u"], none, none, none])) :=
  exists_ok_of_toOption_map (by
    unfold solve solveReach
    rw [show reverseDfs _ exH'.finals = [0, 1, 2] from exH'_ord]
    decide +kernel)

/-- ranks of the conditioned lists `exHnodes`: `0 → {1, 2}`, `2 → {3, 1}`, `1 → 3`; state 3 is
absorbing, the dead sink 4 has lost its self-loop (emptied by `prune_paths`) -/
def rkH : Nat → Nat := fun s => if s = 0 then 2 else if s = 2 then 1 else 0

theorem exH_ranked : Ranked exH.owners exH.rewards exHnodes rkH 2 :=
  ranked_of_range (by decide +kernel)

/-- all hypotheses of `C13.rewards_equivariant_of_thr_zero` (pruning on) hold together on the pair
`exH`, `exH'` -/
theorem exH_runs : ∃ (out out' : SolveOut Rat) (ro ro' : ReachOut Rat),
    solve (roundRat 6) (0 : Rat) 10 true exH = .ok out ∧
    solve (roundRat 6) (0 : Rat) 10 true exH' = .ok out' ∧
    solveReach (roundRat 6) (0 : Rat) 10 true exH = .ok ro ∧
    solveReach (roundRat 6) (0 : Rat) 10 true exH' = .ok ro' ∧
    sweepReach exH.owners exH.tl ro.order ro.probs = (ro.probs, 0) ∧
    sweepReach exH'.owners exH'.tl ro'.order ro'.probs = (ro'.probs, 0) ∧
    Ranked exH.owners exH.rewards out.nodes rkH 2 ∧
    out.rewards = #[4, 2, 3, 0, 0] ∧ out'.rewards = #[4, 3, 2, 0, 0] ∧
    out.nodes = exHnodes ∧ out'.nodes = exHnodes' ∧
    out.finalStrat = #[some ["r"], none, some ["u"], none, none] ∧
    out'.finalStrat = #[some ["z_r"], some ["z_u"], none, none, none] := by
  obtain ⟨out, H, h⟩ := exH_solve
  obtain ⟨out', H', h'⟩ := exH'_solve
  simp only [Prod.mk.injEq] at h h'
  obtain ⟨⟨h1, h2⟩, h3, h4⟩ := h
  obtain ⟨⟨h1', h2'⟩, h3', h4'⟩ := h'
  obtain ⟨⟨ro, Hr, hp, _, _⟩, _, _⟩ := C02.rew_result H
  obtain ⟨⟨ro', Hr', hp', _, _⟩, _, _⟩ := C02.rew_result H'
  have ho : ro.order = [0, 1, 2] := (solveReach_order Hr).trans exH_ord
  have ho' : ro'.order = [0, 1, 2] := (solveReach_order Hr').trans exH'_ord
  refine ⟨out, out', ro, ro', H, H', Hr, Hr', ?_, ?_, by rw [h3]; exact exH_ranked,
    h1, h1', h3, h3', h4, h4'⟩
  · rw [ho, ← hp, h2]; decide +kernel
  · rw [ho', ← hp', h2']; decide +kernel

end CR.Present.Examples
