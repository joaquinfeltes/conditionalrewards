/-
Equations `x[s] = F x s` over a ranked transition system (`RankedOp`): at most one solution for
given values at the pinned states (`unique`), an `ε`-approximate solution is within
`(rank + 1)·ε` of the exact one if `F` is non-expansive (`error_bound`), and a solution exists
whenever the equations at the pinned states hold by themselves: `R + 1` Jacobi steps reach it
(`exists_fix`).
-/
import CR.Lemmas.VI

namespace CR.VI

open CR

/-- induction along a rank that falls on every transition out of a non-pinned state, unless the
transition leads to a pinned state -/
theorem rank_induction {α : Type} {n : Nat} {rows : Array (List (Tr α))} {Pin : Nat → Prop}
    {rk : Nat → Nat}
    (hstep : ∀ s < n, ¬ Pin s → ∀ t ∈ rows.getD s [], t.tgt < n ∧ (Pin t.tgt ∨ rk t.tgt < rk s))
    (P : Nat → Prop) (hpin : ∀ s < n, Pin s → P s)
    (hP : ∀ s < n, ¬ Pin s →
      (∀ t ∈ rows.getD s [], t.tgt < n ∧ P t.tgt ∧ (Pin t.tgt ∨ rk t.tgt < rk s)) → P s) :
    ∀ s < n, P s := by
  have key : ∀ m, ∀ s < n, rk s < m → P s := by
    intro m
    induction m with
    | zero => intro s _ h; omega
    | succ m ih =>
      intro s hs hm
      by_cases hp : Pin s
      · exact hpin s hs hp
      · refine hP s hs hp fun t ht => ?_
        obtain ⟨htn, h⟩ := hstep s hs hp t ht
        exact ⟨htn, h.elim (hpin _ htn) (fun h => ih _ htn (by omega)), h⟩
  exact fun s hs => key (rk s + 1) s hs (by omega)

variable {K : Type} [Field K]

/-- `rows` is ranked apart from the pinned states (the hypothesis of `rank_induction`) and `F` reads
its argument only at the successors of the state.  The two instances are `C01.Bell` with the final
and absorbing states pinned (`ReachRank.ReachRanked.op`) and `Rew.Brew` with the absorbing states
pinned (`Rank.Ranked.op`). -/
structure RankedOp (n : Nat) (rows : Array (List (Tr K))) (Pin : Nat → Prop) (rk : Nat → Nat)
    (F : Array K → Nat → K) : Prop where
  step : ∀ s < n, ¬ Pin s → ∀ t ∈ rows.getD s [], t.tgt < n ∧ (Pin t.tgt ∨ rk t.tgt < rk s)
  congr : ∀ (x y : Array K) (s : Nat),
    (∀ t ∈ rows.getD s [], x.getD t.tgt 0 = y.getD t.tgt 0) → F x s = F y s

namespace RankedOp
variable {n : Nat} {rows : Array (List (Tr K))} {Pin : Nat → Prop} {rk : Nat → Nat}
  {F : Array K → Nat → K}

/-- only the equations at pinned states and ranks `< k` are used; `unique_all` is `k = rk s + 1` -/
theorem unique (h : RankedOp n rows Pin rk F) (k : Nat) (x y : Array K)
    (hx : ∀ s < n, Pin s ∨ rk s < k → F x s = x.getD s 0)
    (hy : ∀ s < n, Pin s ∨ rk s < k → F y s = y.getD s 0)
    (hxy : ∀ s < n, Pin s → x.getD s 0 = y.getD s 0) :
    ∀ s < n, Pin s ∨ rk s < k → x.getD s 0 = y.getD s 0 :=
  rank_induction h.step (fun s => Pin s ∨ rk s < k → x.getD s 0 = y.getD s 0)
    (fun s hs hp _ => hxy s hs hp) fun s hs hp ih hlow => by
      rw [← hx s hs hlow, ← hy s hs hlow]
      exact h.congr x y s fun t ht =>
        (ih t ht).2.1 ((ih t ht).2.2.imp_right fun h => h.trans (hlow.resolve_left hp))

theorem unique_all (h : RankedOp n rows Pin rk F) (x y : Array K)
    (hx : ∀ s < n, F x s = x.getD s 0) (hy : ∀ s < n, F y s = y.getD s 0)
    (hxy : ∀ s < n, Pin s → x.getD s 0 = y.getD s 0) : ∀ s < n, x.getD s 0 = y.getD s 0 :=
  fun s hs => h.unique (rk s + 1) x y (fun s hs _ => hx s hs) (fun s hs _ => hy s hs) hxy s hs
    (Or.inr (Nat.lt_succ_self _))

/-- `hpin`: at a pinned state the value `c s` satisfies the equation whatever the other entries
are.  The solution is reached by `R + 1` Jacobi steps from `c`: each step settles one more rank,
the pinned states stay. -/
theorem exists_fix (h : RankedOp n rows Pin rk F) {R : Nat} (hR : ∀ s < n, rk s ≤ R) (c : Nat → K)
    (hpin : ∀ s < n, Pin s → ∀ x : Array K, x.getD s 0 = c s → F x s = c s) :
    ∃ w : Array K, w.size = n ∧ (∀ s < n, F w s = w.getD s 0) ∧
      ∀ s < n, Pin s → w.getD s 0 = c s := by
  have key : ∀ k, ∃ x : Array K, x.size = n ∧ (∀ s < n, Pin s → x.getD s 0 = c s) ∧
      ∀ s < n, rk s < k → F x s = x.getD s 0 := by
    intro k
    induction k with
    | zero =>
      exact ⟨(Array.range n).map c, by simp, fun s hs _ => by rw [getD_map_range, if_pos hs],
        fun s _ h => absurd h (Nat.not_lt_zero _)⟩
    | succ k ih =>
      obtain ⟨x, _, hc, hfix⟩ := ih
      -- one Jacobi step
      set y : Array K := (Array.range n).map (F x) with hy
      have hget : ∀ s < n, y.getD s 0 = F x s := fun s hs => by
        rw [hy, getD_map_range, if_pos hs]
      have hc' : ∀ s < n, Pin s → y.getD s 0 = c s := fun s hs hp => by
        rw [hget s hs, hpin s hs hp x (hc s hs hp)]
      refine ⟨y, by rw [hy, Array.size_map, Array.size_range], hc', fun s hs hk => ?_⟩
      by_cases hp : Pin s
      · rw [hc' s hs hp, hpin s hs hp _ (hc' s hs hp)]
      · rw [hget s hs]
        refine h.congr _ _ s fun t ht => ?_
        obtain ⟨htn, hpt | hlt⟩ := h.step s hs hp t ht
        · rw [hc' _ htn hpt, hc _ htn hpt]
        · rw [hget _ htn, hfix _ htn (by omega)]
  obtain ⟨w, hsz, hc, hfix⟩ := key (R + 1)
  exact ⟨w, hsz, fun s hs => hfix s hs (Nat.lt_succ_of_le (hR s hs)), hc⟩

variable [LinearOrder K] [IsStrictOrderedRing K]

theorem error_bound (h : RankedOp n rows Pin rk F)
    (hnonexp : ∀ s < n, ¬ Pin s → ∀ (x y : Array K) (e : K), 0 ≤ e →
      (∀ t ∈ rows.getD s [], |x.getD t.tgt 0 - y.getD t.tgt 0| ≤ e) → |F x s - F y s| ≤ e)
    (x w : Array K) (ε : K) (hε : 0 ≤ ε)
    (hx : ∀ s < n, |F x s - x.getD s 0| ≤ ε)
    (hw : ∀ s < n, F w s = w.getD s 0)
    (hxw : ∀ s < n, Pin s → x.getD s 0 = w.getD s 0) :
    ∀ s < n, |x.getD s 0 - w.getD s 0| ≤ ((rk s : K) + 1) * ε := by
  have hr : ∀ m : Nat, 0 ≤ (m : K) * ε := fun m => mul_nonneg (Nat.cast_nonneg m) hε
  refine rank_induction h.step _ (fun s hs hp => ?_) fun s hs hp ih => ?_
  · rw [hxw s hs hp, ← Nat.cast_succ]; exact abs_sub_self_le _ (hr _)
  -- the successors are within `rk s · ε`, `F` is non-expansive, the residual adds one `ε`
  have h1 := hnonexp s hs hp x w ((rk s : K) * ε) (hr _) fun t ht => by
    obtain ⟨htn, hP, h⟩ := ih t ht
    rcases h with h | h
    · rw [hxw _ htn h]; exact abs_sub_self_le _ (hr _)
    · rw [← Nat.cast_succ] at hP
      exact hP.trans (mul_le_mul_of_nonneg_right (Nat.cast_le.2 (Nat.succ_le_of_lt h)) hε)
  rw [hw s hs] at h1
  calc |x.getD s 0 - w.getD s 0|
      = |(F x s - w.getD s 0) - (F x s - x.getD s 0)| := by rw [sub_sub_sub_cancel_left]
    _ ≤ (rk s : K) * ε + ε := (abs_sub _ _).trans (add_le_add h1 (hx s hs))
    _ = ((rk s : K) + 1) * ε := (add_one_mul _ _).symm

end RankedOp

end CR.VI
