/-
The strategy lists (C04, C05, C14).  `bestStrat` and `worstStratFrom` are the same fold, up to the
comparison `r` (`r a b`: "`a` beats `b`") and the start value: it returns the running extremum
`runBest r` and the actions of the members attaining it (`argFold`).  Everything about them is
proved once, for a strict total `r` on `Int`, and read off for `>` (`runMax`) and `<` (`runMin`).
-/
import CR.Lemmas.Basic

namespace CR

section Fold
variable {β : Type}

def runMax (key : β → Int) (m : Int) (row : List β) : Int :=
  row.foldl (fun m t => max m (key t)) m

def runMin (key : β → Int) (m : Int) (row : List β) : Int :=
  row.foldl (fun m t => min m (key t)) m

theorem runMax_nil (key : β → Int) (m : Int) : runMax key m [] = m := rfl
theorem runMax_cons (key : β → Int) (m : Int) (t : β) (ts : List β) :
    runMax key m (t :: ts) = runMax key (max m (key t)) ts := rfl
theorem runMin_nil (key : β → Int) (m : Int) : runMin key m [] = m := rfl
theorem runMin_cons (key : β → Int) (m : Int) (t : β) (ts : List β) :
    runMin key m (t :: ts) = runMin key (min m (key t)) ts := rfl

structure StrictTotal (r : Int → Int → Prop) : Prop where
  irrefl : ∀ a, ¬ r a a
  trans : ∀ {a b c}, r a b → r b c → r a c
  total : ∀ a b, r a b ∨ a = b ∨ r b a

theorem StrictTotal.lt : StrictTotal (· < ·) := ⟨Int.lt_irrefl, Int.lt_trans, Int.lt_trichotomy⟩

theorem StrictTotal.gt : StrictTotal (· > ·) :=
  ⟨Int.lt_irrefl, fun h₁ h₂ => Int.lt_trans h₂ h₁,
    fun a b => (Int.lt_trichotomy b a).imp id (Or.imp Eq.symm id)⟩

section Best
variable (r : Int → Int → Prop) [DecidableRel r] (key : β → Int)

def runBest (m : Int) (row : List β) : Int :=
  row.foldl (fun m t => if r (key t) m then key t else m) m

theorem runBest_cons (m : Int) (t : β) (ts : List β) :
    runBest r key m (t :: ts) = runBest r key (if r (key t) m then key t else m) ts := rfl

variable {r} (hr : StrictTotal r)
include hr

/-- the result is the start value or attained in the row; neither the start value nor any member
beats it -/
theorem runBest_spec (row : List β) (m : Int) :
    (runBest r key m row = m ∨ ∃ t ∈ row, key t = runBest r key m row) ∧
      ¬ r m (runBest r key m row) ∧ ∀ t ∈ row, ¬ r (key t) (runBest r key m row) := by
  induction row generalizing m with
  | nil => exact ⟨.inl rfl, hr.irrefl m, fun _ h => nomatch h⟩
  | cons t ts ih =>
    rw [runBest_cons]
    by_cases h : r (key t) m
    · rw [if_pos h]
      obtain ⟨hatt, hstart, hrow⟩ := ih (key t)
      exact ⟨.inr (hatt.elim (fun e => ⟨t, List.mem_cons_self, e.symm⟩)
          fun ⟨u, hu, e⟩ => ⟨u, List.mem_cons_of_mem _ hu, e⟩),
        fun hm => hstart (hr.trans h hm), List.forall_mem_cons.2 ⟨hstart, hrow⟩⟩
    · rw [if_neg h]
      obtain ⟨hatt, hstart, hrow⟩ := ih m
      refine ⟨hatt.imp id fun ⟨u, hu, e⟩ => ⟨u, List.mem_cons_of_mem _ hu, e⟩, hstart,
        List.forall_mem_cons.2 ⟨fun ht => ?_, hrow⟩⟩
      -- `t` does not beat `m`, which the result does not beat either
      rcases hr.total m (runBest r key m ts) with h' | h' | h'
      · exact hstart h'
      · exact h (h' ▸ ht)
      · exact h (hr.trans ht h')

/-- The list the fold starts from is read as the actions of earlier members `pre` whose key is the
start value: a member that ties with the start value joins them. -/
theorem argFold (act : β → String) (pre row : List β) (m : Int) (hpre : ∀ u ∈ pre, key u = m) :
    row.foldl (fun (acc : Int × List String) t =>
      if r (key t) acc.1 then (key t, [act t])
      else if key t == acc.1 then (acc.1, acc.2 ++ [act t]) else acc) (m, pre.map act)
    = (runBest r key m row,
       ((pre ++ row).filter (fun t => key t == runBest r key m row)).map act) := by
  induction row generalizing m pre with
  | nil =>
    rw [List.append_nil]
    exact congrArg (fun l => (m, l.map act))
      (List.filter_eq_self.2 fun u hu => beq_iff_eq.2 (hpre u hu)).symm
  | cons t ts ih =>
    rw [List.foldl_cons, runBest_cons]
    by_cases h1 : r (key t) m
    · -- `t` beats the start value, hence so does the result: the list restarts at `t`
      simp only [if_pos h1]
      refine (ih [t] (key t) (fun u hu => by rw [List.mem_singleton.1 hu])).trans ?_
      have hs := (runBest_spec key hr ts (key t)).2.1
      generalize runBest r key (key t) ts = B at hs ⊢
      have hne : B ≠ m := fun e => hs (e ▸ h1)
      rw [List.filter_append pre,
        List.filter_eq_nil_iff.2 (fun u hu e => hne ((beq_iff_eq.1 e).symm.trans (hpre u hu)))]
      rfl
    · simp only [if_neg h1]
      by_cases h2 : key t = m
      · -- `t` ties with the start value: it joins `pre`
        simp only [h2, beq_self_eq_true, if_true]
        have := ih (pre ++ [t]) m (fun u hu => (List.mem_append.1 hu).elim (hpre u)
          (fun hu => by rw [List.mem_singleton.1 hu, h2]))
        rw [List.map_append, List.append_assoc] at this
        exact this
      · -- `t` is beaten by the start value, hence by the result
        simp only [beq_eq_false_iff_ne.2 h2, Bool.false_eq_true, if_false]
        have hne : key t ≠ runBest r key m ts := fun e =>
          (hr.total (key t) m).elim h1 fun h =>
            h.elim h2 fun h => (runBest_spec key hr ts m).2.1 (e ▸ h)
        rw [ih pre m hpre, List.filter_append, List.filter_append,
          List.filter_cons_of_neg (by rw [beq_eq_false_iff_ne.2 hne]; exact Bool.false_ne_true)]

theorem key_eq_runBest_iff (row : List β) (m : Int) {t : β} (ht : t ∈ row) :
    key t = runBest r key m row ↔ ¬ r m (key t) ∧ ∀ u ∈ row, ¬ r (key u) (key t) := by
  obtain ⟨hatt, hstart, hrow⟩ := runBest_spec key hr row m
  constructor
  · intro h
    rw [h]
    exact ⟨hstart, hrow⟩
  · rintro ⟨hm, hu⟩
    rcases hr.total (key t) (runBest r key m row) with h | h | h
    · exact absurd h (hrow t ht)
    · exact h
    · rcases hatt with e | ⟨u, hu', e⟩
      · exact absurd (e ▸ h) hm
      · exact absurd (e ▸ h) (hu u hu')

theorem mem_argList (act : β → String) (row : List β) (m : Int) {a : String} :
    a ∈ (row.filter (fun t => key t == runBest r key m row)).map act ↔
      ∃ t ∈ row, act t = a ∧ ¬ r m (key t) ∧ ∀ u ∈ row, ¬ r (key u) (key t) := by
  simp only [List.mem_map, List.mem_filter, beq_iff_eq]
  exact ⟨fun ⟨t, ⟨ht, he⟩, ha⟩ => ⟨t, ht, ha, (key_eq_runBest_iff key hr row m ht).1 he⟩,
    fun ⟨t, ht, ha, h⟩ => ⟨t, ⟨ht, (key_eq_runBest_iff key hr row m ht).2 h⟩, ha⟩⟩

theorem argList_eq_nil_iff (act : β → String) (row : List β) (m : Int) :
    (row.filter (fun t => key t == runBest r key m row)).map act = [] ↔
      ∀ t ∈ row, r m (key t) := by
  rw [List.map_eq_nil_iff, List.filter_eq_nil_iff]
  obtain ⟨hatt, hstart, hrow⟩ := runBest_spec key hr row m
  constructor
  · intro h t ht
    rcases hatt with e | ⟨u, hu, e⟩
    · rcases hr.total m (key t) with h' | h' | h'
      · exact h'
      · exact absurd (by rw [e, h']; exact beq_self_eq_true _) (h t ht)
      · exact absurd (e.symm ▸ h') (hrow t ht)
    · exact absurd (by rw [e]; exact beq_self_eq_true _) (h u hu)
  · intro h t ht he
    exact hstart (beq_iff_eq.1 he ▸ h t ht)

theorem argList_of_forall_eq (act : β → String) (row : List β) (m : Int)
    (h : ∀ t ∈ row, key t = m) :
    (row.filter (fun t => key t == runBest r key m row)).map act = row.map act := by
  have hB : runBest r key m row = m :=
    (runBest_spec key hr row m).1.elim id (fun ⟨u, hu, e⟩ => e ▸ h u hu)
  rw [hB, List.filter_eq_self.2 (fun t ht => beq_iff_eq.2 (h t ht))]

end Best

theorem runMax_eq (key : β → Int) (m : Int) (row : List β) :
    runMax key m row = runBest (· > ·) key m row := by
  unfold runMax runBest
  congr
  funext m t
  by_cases h : key t > m
  · rw [if_pos h, Int.max_eq_right (Int.le_of_lt h)]
  · rw [if_neg h, Int.max_eq_left (Int.not_lt.1 h)]

theorem runMin_eq (key : β → Int) (m : Int) (row : List β) :
    runMin key m row = runBest (· < ·) key m row := by
  unfold runMin runBest
  congr
  funext m t
  by_cases h : key t < m
  · rw [if_pos h, Int.min_eq_right (Int.le_of_lt h)]
  · rw [if_neg h, Int.min_eq_left (Int.not_lt.1 h)]

theorem runMax_spec (key : β → Int) (m : Int) (row : List β) :
    m ≤ runMax key m row ∧ (∀ t ∈ row, key t ≤ runMax key m row) ∧
      (runMax key m row = m ∨ ∃ t ∈ row, key t = runMax key m row) := by
  rw [runMax_eq]
  obtain ⟨hatt, hstart, hrow⟩ := runBest_spec key StrictTotal.gt row m
  exact ⟨Int.not_lt.1 hstart, fun t ht => Int.not_lt.1 (hrow t ht), hatt⟩

theorem runMin_spec (key : β → Int) (m : Int) (row : List β) :
    runMin key m row ≤ m ∧ (∀ t ∈ row, runMin key m row ≤ key t) ∧
      (runMin key m row = m ∨ ∃ t ∈ row, key t = runMin key m row) := by
  rw [runMin_eq]
  obtain ⟨hatt, hstart, hrow⟩ := runBest_spec key StrictTotal.lt row m
  exact ⟨Int.not_lt.1 hstart, fun t ht => Int.not_lt.1 (hrow t ht), hatt⟩

theorem argList_congr (key key' : β → Int) (op : Int → Int → Int) (start : Int) (row : List β)
    (h : ∀ t ∈ row, key t = key' t) :
    row.filter (fun t => key t == row.foldl (fun m t => op m (key t)) start) =
      row.filter (fun t => key' t == row.foldl (fun m t => op m (key' t)) start) := by
  have hf : row.foldl (fun m t => op m (key t)) start =
      row.foldl (fun m t => op m (key' t)) start :=
    List.foldl_rel (r := (· = ·)) rfl fun t ht a b hab => by rw [hab, h t ht]
  rw [hf]
  exact List.filter_congr fun t ht => by rw [h t ht]

end Fold

section Extract
variable {α : Type} [OfNat α 0]

/-- the key the folds compare.  `_eq` and `mem_…_iff` statements, where it occurs several times, use
`rkey`; `_eq_nil_iff`, `_ne_nil`, `_all_zero` spell it out, as the C04 theorems quoting them do. -/
abbrev rkey (rnd : α → Int) (vals : Array α) : Tr α → Int := fun t => rnd (vals.getD t.tgt 0)

theorem bestStrat_eq (rnd : α → Int) (vals : Array α) (row : List (Tr α)) :
    bestStrat rnd vals row =
      (row.filter (fun t => rkey rnd vals t == runMax (rkey rnd vals) 0 row)).map (·.act) := by
  rw [runMax_eq]
  exact congrArg Prod.snd
    (argFold (rkey rnd vals) StrictTotal.gt (·.act) [] row 0 (fun _ h => nomatch h))

theorem worstStratFrom_eq (rnd : α → Int) (start : Int) (vals : Array α) (row : List (Tr α)) :
    worstStratFrom rnd start vals row =
      (row.filter (fun t => rkey rnd vals t == runMin (rkey rnd vals) start row)).map (·.act) := by
  rw [runMin_eq]
  exact congrArg Prod.snd
    (argFold (rkey rnd vals) StrictTotal.lt (·.act) [] row start (fun _ h => nomatch h))

theorem worstStratRew_cons (rnd : α → Int) (vals : Array α) (t0 : Tr α) (rest : List (Tr α)) :
    worstStratRew rnd vals (t0 :: rest) =
      ((t0 :: rest).filter (fun t => rkey rnd vals t ==
        runMin (rkey rnd vals) (rkey rnd vals t0) (t0 :: rest))).map (·.act) :=
  worstStratFrom_eq rnd _ vals _

theorem bestStrat_nil (rnd : α → Int) (vals : Array α) : bestStrat rnd vals [] = [] := rfl
theorem worstStratRew_nil (rnd : α → Int) (vals : Array α) : worstStratRew rnd vals [] = [] := rfl
theorem worstStratFrom_nil (rnd : α → Int) (start : Int) (vals : Array α) :
    worstStratFrom rnd start vals [] = [] := rfl

theorem bestStrat_eq_nil_iff (rnd : α → Int) (vals : Array α) (row : List (Tr α)) :
    bestStrat rnd vals row = [] ↔ ∀ t ∈ row, rnd (vals.getD t.tgt 0) < 0 := by
  rw [bestStrat_eq, runMax_eq]
  exact argList_eq_nil_iff (rkey rnd vals) StrictTotal.gt _ row 0

theorem worstStratFrom_eq_nil_iff (rnd : α → Int) (start : Int) (vals : Array α)
    (row : List (Tr α)) :
    worstStratFrom rnd start vals row = [] ↔ ∀ t ∈ row, start < rnd (vals.getD t.tgt 0) := by
  rw [worstStratFrom_eq, runMin_eq]
  exact argList_eq_nil_iff (rkey rnd vals) StrictTotal.lt _ row start

theorem mem_bestStrat_iff (rnd : α → Int) (vals : Array α) (row : List (Tr α)) {a : String} :
    a ∈ bestStrat rnd vals row ↔ ∃ t ∈ row, t.act = a ∧ 0 ≤ rkey rnd vals t ∧
      ∀ u ∈ row, rkey rnd vals u ≤ rkey rnd vals t := by
  rw [bestStrat_eq, runMax_eq, mem_argList (rkey rnd vals) StrictTotal.gt]
  simp only [gt_iff_lt, Int.not_lt]

theorem mem_worstStratFrom_iff (rnd : α → Int) (start : Int) (vals : Array α) (row : List (Tr α))
    {a : String} :
    a ∈ worstStratFrom rnd start vals row ↔ ∃ t ∈ row, t.act = a ∧ rkey rnd vals t ≤ start ∧
      ∀ u ∈ row, rkey rnd vals t ≤ rkey rnd vals u := by
  rw [worstStratFrom_eq, runMin_eq, mem_argList (rkey rnd vals) StrictTotal.lt]
  simp only [Int.not_lt]

/-- started at the first member's own key there is no clamp -/
theorem mem_worstStratRew_iff (rnd : α → Int) (vals : Array α) (row : List (Tr α)) {a : String} :
    a ∈ worstStratRew rnd vals row ↔ ∃ t ∈ row, t.act = a ∧
      ∀ u ∈ row, rkey rnd vals t ≤ rkey rnd vals u := by
  cases row with
  | nil => exact ⟨fun h => (nomatch h), fun ⟨_, h, _⟩ => (nomatch h)⟩
  | cons t0 rest =>
    exact (mem_worstStratFrom_iff rnd _ vals _).trans (exists_congr fun t =>
      and_congr_right fun _ => and_congr_right fun _ =>
        and_iff_right_of_imp fun h => h t0 List.mem_cons_self)

theorem bestStrat_sublist (rnd : α → Int) (vals : Array α) (row : List (Tr α)) :
    (bestStrat rnd vals row).Sublist (row.map (·.act)) := by
  rw [bestStrat_eq]; exact List.filter_sublist.map _

theorem worstStratFrom_sublist (rnd : α → Int) (start : Int) (vals : Array α)
    (row : List (Tr α)) : (worstStratFrom rnd start vals row).Sublist (row.map (·.act)) := by
  rw [worstStratFrom_eq]; exact List.filter_sublist.map _

theorem worstStratRew_sublist (rnd : α → Int) (vals : Array α) (row : List (Tr α)) :
    (worstStratRew rnd vals row).Sublist (row.map (·.act)) := by
  cases row with
  | nil => exact List.Sublist.refl _
  | cons t ts => exact worstStratFrom_sublist rnd _ vals _

theorem bestStrat_ne_nil (rnd : α → Int) (vals : Array α) (row : List (Tr α)) (hne : row ≠ [])
    (hpos : ∀ t ∈ row, 0 ≤ rnd (vals.getD t.tgt 0)) : bestStrat rnd vals row ≠ [] := by
  obtain ⟨t, ts, rfl⟩ := List.exists_cons_of_ne_nil hne
  exact fun h => Int.not_lt.2 (hpos t List.mem_cons_self)
    ((bestStrat_eq_nil_iff rnd vals _).1 h t List.mem_cons_self)

theorem bestStrat_all_zero (rnd : α → Int) (vals : Array α) (row : List (Tr α))
    (hz : ∀ t ∈ row, rnd (vals.getD t.tgt 0) = 0) : bestStrat rnd vals row = row.map (·.act) := by
  rw [bestStrat_eq, runMax_eq]
  exact argList_of_forall_eq (rkey rnd vals) StrictTotal.gt _ row 0 hz

theorem worstStratFrom_ne_nil (rnd : α → Int) (start : Int) (vals : Array α) (row : List (Tr α))
    (hne : row ≠ []) (hle : ∀ t ∈ row, rnd (vals.getD t.tgt 0) ≤ start) :
    worstStratFrom rnd start vals row ≠ [] := by
  obtain ⟨t, ts, rfl⟩ := List.exists_cons_of_ne_nil hne
  exact fun h => Int.not_lt.2 (hle t List.mem_cons_self)
    ((worstStratFrom_eq_nil_iff rnd start vals _).1 h t List.mem_cons_self)

/-- started at the first member's own key, the minimum is attained -/
theorem worstStratRew_ne_nil (rnd : α → Int) (vals : Array α) (row : List (Tr α))
    (hne : row ≠ []) : worstStratRew rnd vals row ≠ [] := by
  obtain ⟨t, ts, rfl⟩ := List.exists_cons_of_ne_nil hne
  exact fun h => Int.lt_irrefl _
    ((worstStratFrom_eq_nil_iff rnd _ vals _).1 h t List.mem_cons_self)

end Extract

section Strategies
variable {α : Type} [OfNat α 0] [OfNat α 1]

/-- `reachStrategies` and `rewardStrategies` are both of this form (`reachStrategies_eq`,
`rewardStrategies_eq`) -/
def stratArray (owners : Array Owner) (f g : Nat → List String) : Array Strat :=
  (Array.range owners.size).map (fun s =>
    match owners.getD s .prob with
    | .p1 => some (f s)
    | .p2 => some (g s)
    | .prob => none)

theorem stratArray_size (owners : Array Owner) (f g : Nat → List String) :
    (stratArray owners f g).size = owners.size := by
  simp [stratArray]

theorem stratArray_getD (owners : Array Owner) (f g : Nat → List String) (s : Nat) :
    (stratArray owners f g).getD s none =
      match owners.getD s .prob with
      | .p1 => some (f s)
      | .p2 => some (g s)
      | .prob => none := by
  unfold stratArray
  rw [getD_map_range]
  by_cases h : s < owners.size
  · rw [if_pos h]
  · rw [if_neg h, getD_of_size_le _ _ _ (Nat.le_of_not_lt h)]

theorem stratArray_getD_eq_none_iff (owners : Array Owner) (f g : Nat → List String) (s : Nat) :
    (stratArray owners f g).getD s none = none ↔ owners.getD s .prob = .prob := by
  rw [stratArray_getD]
  cases owners.getD s .prob <;> simp

theorem stratArray_getD_of_ne_prob {owners : Array Owner} (f g : Nat → List String) {s : Nat}
    (hs : owners.getD s .prob ≠ .prob) (P : List String → Prop) (hf : P (f s)) (hg : P (g s)) :
    ∃ l, (stratArray owners f g).getD s none = some l ∧ P l := by
  rw [stratArray_getD]
  cases h : owners.getD s .prob with
  | prob => exact absurd h hs
  | p1 => exact ⟨_, rfl, hf⟩
  | p2 => exact ⟨_, rfl, hg⟩

theorem reachStrategies_eq (rnd : α → Int) (owners : Array Owner) (nodes : Array (List (Tr α)))
    (reach : Array α) :
    reachStrategies rnd owners nodes reach =
      stratArray owners (fun s => bestStrat rnd reach (nodes.getD s []))
        (fun s => worstStratFrom rnd (rnd 1) reach (nodes.getD s [])) := rfl

omit [OfNat α 1] in
theorem rewardStrategies_eq (rnd : α → Int) (owners : Array Owner) (nodes : Array (List (Tr α)))
    (er : Array α) :
    rewardStrategies rnd owners nodes er =
      stratArray owners (fun s => bestStrat rnd er (nodes.getD s []))
        (fun s => worstStratRew rnd er (nodes.getD s [])) := rfl

theorem reachStrategies_size (rnd : α → Int) (owners : Array Owner) (nodes : Array (List (Tr α)))
    (reach : Array α) : (reachStrategies rnd owners nodes reach).size = owners.size :=
  stratArray_size _ _ _

theorem reachStrategies_getD (rnd : α → Int) (owners : Array Owner) (nodes : Array (List (Tr α)))
    (reach : Array α) (s : Nat) :
    (reachStrategies rnd owners nodes reach).getD s none =
      match owners.getD s .prob with
      | .p1 => some (bestStrat rnd reach (nodes.getD s []))
      | .p2 => some (worstStratFrom rnd (rnd 1) reach (nodes.getD s []))
      | .prob => none :=
  stratArray_getD _ _ _ s

omit [OfNat α 1] in
theorem rewardStrategies_size (rnd : α → Int) (owners : Array Owner)
    (nodes : Array (List (Tr α))) (er : Array α) :
    (rewardStrategies rnd owners nodes er).size = owners.size :=
  stratArray_size _ _ _

omit [OfNat α 1] in
theorem rewardStrategies_getD (rnd : α → Int) (owners : Array Owner)
    (nodes : Array (List (Tr α))) (er : Array α) (s : Nat) :
    (rewardStrategies rnd owners nodes er).getD s none =
      match owners.getD s .prob with
      | .p1 => some (bestStrat rnd er (nodes.getD s []))
      | .p2 => some (worstStratRew rnd er (nodes.getD s []))
      | .prob => none :=
  stratArray_getD _ _ _ s

end Strategies

section FinalStrat
variable {α : Type} [Add α] [Sub α] [Mul α] [Div α] [Neg α] [LT α] [DecidableLT α]
  [LE α] [DecidableLE α] [BEq α] [OfNat α 0] [OfNat α 1]
  {rnd : α → Int} {thr : α} {fuel : Nat} {prune : Bool} {g : Game α} {out : SolveOut α}

theorem reachStrat_p1 (H : solve rnd thr fuel prune g = .ok out) {s : Nat}
    (ho : g.owners.getD s .prob = .p1) :
    out.reachStrat.getD s none = some (bestStrat rnd out.probs (g.tl.getD s [])) := by
  obtain ⟨ro, hro, _, _, _, hst, hpr, _⟩ := solve_eq_ok.mp H
  rw [hst, hpr, solveReach_strat hro, reachStrategies_getD, ho]

theorem finalStrat_p1 (H : solve rnd thr fuel prune g = .ok out) {s : Nat}
    (ho : g.owners.getD s .prob = .p1) :
    out.finalStrat.getD s none = some (bestStrat rnd out.rewards (out.nodes.getD s [])) := by
  obtain ⟨_, _, _, _, hfin, _⟩ := solve_eq_ok.mp H
  rw [hfin, rewardStrategies_getD, ho]

theorem finalStrat_p2 (H : solve rnd thr fuel prune g = .ok out) {s : Nat}
    (ho : g.owners.getD s .prob = .p2) :
    out.finalStrat.getD s none = some (worstStratRew rnd out.rewards (out.nodes.getD s [])) := by
  obtain ⟨_, _, _, _, hfin, _⟩ := solve_eq_ok.mp H
  rw [hfin, rewardStrategies_getD, ho]

end FinalStrat

end CR
