/-
Concrete data for the non-vacuity examples of `CR/Props/C01Ranked.lean`: the 7-state game `g7`
(`CR/Lemmas/Runs.lean`) is well-formed and reach-ranked; its exact solution; two runs of `solveReach`
on it: with threshold 10⁻⁶ (four sweeps, exact; `Examples.g7_reach_true` of `Runs.lean`, restated) and,
evaluated here, with threshold 3/4 (two sweeps, state 0 of rank 2 not yet exact).
-/
import CR.Lemmas.ReachRanked
import CR.Lemmas.Runs

namespace CR.ReachRank.Examples

open CR CR.VI CR.C01 CR.Examples

/-- ranks of `g7`: `0 → {1, 2}`, `1 → {3, 4}`, `2 → {5, 6}`, `3 → {4, 5}`; states 4, 5, 6 are
absorbing (5 is the final state, 4 and 6 are sinks) -/
def rk7 : Nat → Nat := fun s => if s = 0 then 2 else if s = 1 then 1 else 0

/-- the exact solution (= the value) of `g7` -/
def v7 : Array Rat := #[3/4, 3/4, 1/2, 1, 0, 1, 0]

theorem g7_wf : WF g7 := by decide +kernel

theorem g7_ranked : ReachRanked g7 rk7 2 := by decide +kernel

theorem v7_exact : ExactReach g7 v7 := by decide +kernel

/-- the run with threshold 10⁻⁶ (pruning on): four sweeps over `[0, 1, 2, 3]` -/
theorem g7_reach_run : ∃ r, solveReach (roundRat 6) thr 1000 true g7 = .ok r ∧
    (r.probs, r.iters, r.order) = (v7, 4, [0, 1, 2, 3]) :=
  ⟨g7reach, g7_reach_true, rfl⟩

/-- the run with threshold 3/4: the loop stops after two sweeps; state 0 (rank 2) reports 1/2 -/
theorem g7_reach_run_early : ∃ r, solveReach (roundRat 6) (3/4 : Rat) 1000 true g7 = .ok r ∧
    (r.probs, r.iters, r.order) = (#[1/2, 3/4, 1/2, 1, 0, 1, 0], 2, [0, 1, 2, 3]) :=
  exists_ok_of_toOption_map (by unfold solveReach; rw [g7_ord]; decide +kernel)

end CR.ReachRank.Examples
