/-
Helper lemmas for `CR/Props/C01Limit.lean`: over ℝ the iterates `VI.iter g k` of the reachability
phase (increasing, below every pre-fixed point) converge to the value.
-/
import CR.Props.C01Path
import Mathlib.Algebra.Order.Archimedean.Real.Basic
import Mathlib.Order.Monotone.Basic
import Mathlib.Order.ConditionallyCompleteLattice.Indexed

namespace CR.Limit

open CR CR.VI CR.C01

section Gen
variable {K : Type} [Field K] [LinearOrder K] [IsStrictOrderedRing K]

/-- a positive `δ ≤ 1` below every NON-ZERO one of `d 0 … d (N-1)`; with `d = dres g` it is the `δ` of
`reach_converges_to_value`: a run with `thr < δ` that stops before sweep `N` stopped on change 0 -/
theorem exists_pos_le_nonzero (d : Nat → K) (hd : ∀ k, 0 ≤ d k) (N : Nat) :
    ∃ δ : K, 0 < δ ∧ δ ≤ 1 ∧ ∀ k < N, d k = 0 ∨ δ ≤ d k := by
  induction N with
  | zero => exact ⟨1, zero_lt_one, le_rfl, fun k hk => absurd hk (Nat.not_lt_zero _)⟩
  | succ N ih =>
    obtain ⟨δ, h0, h1, h⟩ := ih
    by_cases hz : d N = 0
    · refine ⟨δ, h0, h1, fun k hk => ?_⟩
      rcases Nat.lt_succ_iff_lt_or_eq.mp hk with hk | rfl
      · exact h k hk
      · exact Or.inl hz
    · refine ⟨min δ (d N), lt_min h0 ((hd N).lt_of_ne' hz), (min_le_left _ _).trans h1,
        fun k hk => ?_⟩
      rcases Nat.lt_succ_iff_lt_or_eq.mp hk with hk | rfl
      · exact (h k hk).imp_right (min_le_left _ _).trans
      · exact Or.inr (min_le_right _ _)

end Gen

section Real

/-- the pointwise supremum (= limit) of the iterates -/
noncomputable def lim (g : Game ℝ) (j : Nat) : ℝ := ⨆ k, (iter g k).getD j 0

theorem iter_bdd {g : Game ℝ} (hwf : WF g) (j : Nat) :
    BddAbove (Set.range fun k => (iter g k).getD j 0) :=
  ⟨1, by rintro _ ⟨k, rfl⟩; exact (iter_range hwf.rowNonneg hwf.rowSumOne k j).2⟩

theorem le_lim {g : Game ℝ} (hwf : WF g) (k j : Nat) : (iter g k).getD j 0 ≤ lim g j :=
  le_ciSup (iter_bdd hwf j) k

theorem lim_le_prefixed {g : Game ℝ} (hwf : WF g) (y : Array ℝ) (hy : PreFixed g y) (j : Nat) :
    lim g j ≤ y.getD j 0 :=
  ciSup_le (fun k => iter_le_prefixed hwf.rowNonneg hy k j)

theorem lim_const {g : Game ℝ} (j : Nat) (c : ℝ) (h : ∀ k, (iter g k).getD j 0 = c) :
    lim g j = c := by
  unfold lim
  have : (fun k => (iter g k).getD j 0) = fun _ => c := funext h
  rw [this]; exact ciSup_const

theorem lim_of_size_le {g : Game ℝ} (j : Nat) (hj : g.owners.size ≤ j) : lim g j = 0 :=
  lim_const j 0 (fun k => getD_iter_of_size_le k hj)

theorem lim_untouched {g : Game ℝ} (j : Nat) (hj : j ∉ gameOrder g) :
    lim g j = (initVec g).getD j 0 :=
  lim_const j _ (fun k => iter_untouched k hj)

private theorem lim_close_one {g : Game ℝ} (hwf : WF g) (ε : ℝ) (hε : 0 < ε) (j : Nat) :
    ∃ N, ∀ k, N ≤ k → lim g j - ε < (iter g k).getD j 0 := by
  obtain ⟨N, hN⟩ := exists_lt_of_lt_ciSup (sub_lt_self (lim g j) hε)
  exact ⟨N, fun k hk => lt_of_lt_of_le hN (iter_mono hwf.rowNonneg j hk)⟩

private theorem lim_close_below {g : Game ℝ} (hwf : WF g) (ε : ℝ) (hε : 0 < ε) (m : Nat) :
    ∃ N, ∀ k, N ≤ k → ∀ j < m, lim g j - ε < (iter g k).getD j 0 := by
  induction m with
  | zero => exact ⟨0, fun k _ j hj => absurd hj (Nat.not_lt_zero _)⟩
  | succ m ih =>
    obtain ⟨N1, h1⟩ := ih
    obtain ⟨N2, h2⟩ := lim_close_one hwf ε hε m
    refine ⟨max N1 N2, fun k hk j hj => ?_⟩
    rcases Nat.lt_succ_iff_lt_or_eq.mp hj with h | rfl
    · exact h1 k (le_trans (le_max_left _ _) hk) j h
    · exact h2 k (le_trans (le_max_right _ _) hk)

theorem lim_close {g : Game ℝ} (hwf : WF g) (ε : ℝ) (hε : 0 < ε) :
    ∃ N, ∀ k, N ≤ k → ∀ j, lim g j - ε < (iter g k).getD j 0 := by
  obtain ⟨N, h⟩ := lim_close_below hwf ε hε g.owners.size
  refine ⟨N, fun k hk j => ?_⟩
  by_cases hj : j < g.owners.size
  · exact h k hk j hj
  · rw [lim_of_size_le j (Nat.le_of_not_lt hj), getD_iter_of_size_le k (Nat.le_of_not_lt hj)]
    exact sub_lt_self 0 hε

noncomputable def limVec (g : Game ℝ) : Array ℝ :=
  (Array.range g.owners.size).map fun j => lim g j

theorem getD_limVec (g : Game ℝ) (j : Nat) : (limVec g).getD j 0 = lim g j := by
  unfold limVec
  rw [getD_map_range]
  split
  · rfl
  · rename_i h; exact (lim_of_size_le j (Nat.le_of_not_lt h)).symm

/-- two points of an increasing sequence that lie within `ε` below its limit `l` -/
theorem abs_sub_le_of_between {a b l ε : ℝ} (ha : l - ε < a) (hab : a ≤ b) (hb : b ≤ l) :
    |b - a| ≤ ε :=
  abs_le.mpr ⟨by linarith, by linarith⟩

/-- the change is attained at a coordinate (`dres_attained`), where iterate `k + 1` lies between iterate `k`
and the limit -/
theorem dres_small {g : Game ℝ} (hwf : WF g) (ε : ℝ) (hε : 0 < ε) (k : Nat)
    (hk : ∀ j, lim g j - ε < (iter g k).getD j 0) : dres g k ≤ ε := by
  rcases dres_attained hwf.size k with h | ⟨s, _, _, h⟩
  · rw [h]; exact le_of_lt hε
  · rw [h]
    exact abs_sub_le_of_between (hk s) (iter_le_succ hwf.rowNonneg k s) (le_lim hwf (k + 1) s)

theorem lim_fixed {g : Game ℝ} (hwf : WF g) (s : Nat) (hs : s ∈ gameOrder g)
    (hlt : s < g.owners.size) : stepReach g.owners g.tl (limVec g) s = lim g s := by
  -- for every `ε` the two are within `3ε`: with `N` such that all iterates from the `N`-th on are
  -- within `ε` of the limit, `|step lim − step (iter (N+1))| ≤ ε` (non-expansive),
  -- `|step (iter (N+1)) − iter (N+1)| ≤ dres N ≤ ε` (residual), `|iter (N+1) − lim| ≤ ε`
  refine eq_of_abs_sub_le_all fun ε' hε' => ?_
  obtain ⟨ε, hε, rfl⟩ : ∃ ε, 0 < ε ∧ 3 * ε = ε' := ⟨ε' / 3, div_pos hε' three_pos, by ring⟩
  obtain ⟨N, hN⟩ := lim_close hwf ε hε
  have hlim : ∀ j, |lim g j - (iter g (N + 1)).getD j 0| ≤ ε := fun j =>
    abs_sub_le_of_between (hN (N + 1) (Nat.le_succ N) j) (le_lim hwf (N + 1) j) le_rfl
  have h1 : |stepReach g.owners g.tl (limVec g) s - stepReach g.owners g.tl (iter g (N + 1)) s|
      ≤ ε :=
    stepReach_nonexp (hwf.rowNonneg s hlt) (hwf.rowSumOne s hlt) _ _ _ hε.le fun t _ => by
      rw [getD_limVec g]; exact hlim t.tgt
  have h2 : |stepReach g.owners g.tl (iter g (N + 1)) s - (iter g (N + 1)).getD s 0| ≤ ε :=
    (dres_residual N hs hlt (hwf.rowNonneg s hlt) (hwf.rowSumOne s hlt)).trans
      (dres_small hwf ε hε N (hN N le_rfl))
  have h3 : |(iter g (N + 1)).getD s 0 - lim g s| ≤ ε := by rw [abs_sub_comm]; exact hlim s
  -- the triangle inequality, through `iter (N+1) s` and then through `step (iter (N+1)) s`
  have h23 := (abs_sub_le _ ((iter g (N + 1)).getD s 0) _).trans (add_le_add h2 h3)
  exact ((abs_sub_le _ (stepReach g.owners g.tl (iter g (N + 1)) s) _).trans
    (add_le_add h1 h23)).trans_eq (by ring)

/-- `hne`: a Player-2 state without a transition has step value 1 -/
theorem limVec_prefixed {g : Game ℝ} (hwf : WF g)
    (hne : ∀ s < g.owners.size, g.tl.getD s [] ≠ []) : PreFixed g (limVec g) :=
  ⟨by simp [limVec],
    fun s _ => by
      rw [getD_limVec g]
      exact le_trans (iter_range hwf.rowNonneg hwf.rowSumOne 0 s).1 (le_lim hwf 0 s),
    fun s hs => le_of_eq <| bell_fixed_of_order hwf.rowNonneg hne (gameOrder_closed hwf.size hwf.tgts)
      (fun j hj => by rw [getD_limVec g, lim_untouched j hj])
      (fun s hs hlt => by rw [lim_fixed hwf s hs hlt, getD_limVec g]) s hs⟩

theorem lim_eq_value {g : Game ℝ} (hwf : WF g) (hne : ∀ s < g.owners.size, g.tl.getD s [] ≠ [])
    (v : Array ℝ) (hv : IsValue g v) (s : Nat) (hs : s < g.owners.size) :
    lim g s = v.getD s 0 := by
  refine le_antisymm (lim_le_prefixed hwf v hv.prefixed s) ?_
  have := hv.least (limVec_prefixed hwf hne) s hs
  rwa [getD_limVec g] at this

theorem iter_converges {g : Game ℝ} (hwf : WF g) (hne : ∀ s < g.owners.size, g.tl.getD s [] ≠ [])
    (v : Array ℝ) (hv : IsValue g v) (ε : ℝ) (hε : 0 < ε) :
    ∃ N : Nat, ∀ k, N ≤ k → ∀ s < g.owners.size,
      v.getD s 0 - ε < (iter g k).getD s 0 ∧ (iter g k).getD s 0 ≤ v.getD s 0 := by
  obtain ⟨N, hN⟩ := lim_close hwf ε hε
  refine ⟨N, fun k hk s hs => ⟨?_, iter_le_prefixed hwf.rowNonneg hv.prefixed k s⟩⟩
  rw [← lim_eq_value hwf hne v hv s hs]
  exact hN k hk s

end Real

end CR.Limit
