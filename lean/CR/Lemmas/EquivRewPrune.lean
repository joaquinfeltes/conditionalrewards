/-
Conditioning commutes with a re-presentation, including the clearing of unreachable states by the
`prune_states` loop.

`pruneStatesRound` clears the states that are not Player 1's and are not a target (of any row, or
the initial state 0); both "is a target" and the owner are presentation independent (`π 0 = 0` is
used here), so the cleared sets of the two presentations correspond under `π` round by round, the
loop's exit test (`sameSet`) gives the same answer in both, and with equal fuel (`n + 2`) both
loops return related lists.
-/
import CR.Lemmas.EquivRew

namespace CR.Present

open CR CR.VI CR.Rew

variable {K : Type} [Field K]
variable {π : Nat → Nat} {ρ : String → String} {o o' : Array Owner} {r r' : Array K}
  {nodes nodes' : Array (List (Tr K))}

/-- side conditions of the `prune_states` loop: the initial state is kept first and both lists
have one row per state -/
structure PruneSide (π : Nat → Nat) (o : Array Owner) (nodes nodes' : Array (List (Tr K))) :
    Prop where
  fix0 : π 0 = 0
  size : nodes.size = o.size
  size_right : nodes'.size = o.size

/-- two lists of states that correspond under `π` -/
structure SetRel (π : Nat → Nat) (n : Nat) (l l' : List Nat) : Prop where
  left_lt : ∀ x ∈ l, x < n
  right_lt : ∀ x ∈ l', x < n
  mem_iff : ∀ s < n, (π s ∈ l' ↔ s ∈ l)

theorem SetRel.nil (π : Nat → Nat) (n : Nat) : SetRel π n [] [] :=
  ⟨nofun, nofun, fun _ _ => ⟨nofun, nofun⟩⟩

theorem mem_roundTargets_rel (h : RewRel π ρ o o' r r' nodes nodes') (hside : PruneSide π o nodes nodes')
    {s : Nat} (hs : s < o.size) : π s ∈ roundTargets nodes' ↔ s ∈ roundTargets nodes := by
  rw [mem_roundTargets, mem_roundTargets]
  refine or_congr ⟨fun h0 => h.inj s hs 0 (by omega) (by rw [h0, hside.fix0]),
    fun h0 => by rw [h0, hside.fix0]⟩ ⟨?_, ?_⟩
  · rintro ⟨u', t', ht', htgt⟩
    obtain ⟨u, hu, rfl⟩ := h.renum.surj u' (hside.size_right ▸ lt_size_of_mem_getD ht')
    obtain ⟨t, ht, rfl⟩ := (mem_rel (h.rows u hu)).mp ht'
    exact ⟨u, t, ht, h.inj _ (h.tgt u hu t ht) _ hs htgt⟩
  · rintro ⟨u, t, ht, rfl⟩
    have hu : u < o.size := hside.size ▸ lt_size_of_mem_getD ht
    exact ⟨π u, trMap π ρ t, (mem_rel (h.rows u hu)).mpr ⟨t, ht, rfl⟩, rfl⟩

theorem cleared_rel (h : RewRel π ρ o o' r r' nodes nodes') (hside : PruneSide π o nodes nodes')
    {s : Nat} (hs : s < o.size) : cleared o' nodes' (π s) = cleared o nodes s := by
  rw [Bool.eq_iff_iff, cleared_iff, cleared_iff, h.owners s hs, mem_roundTargets_rel h hside hs]

theorem deadP1_rel (h : RewRel π ρ o o' r r' nodes nodes') (hside : PruneSide π o nodes nodes')
    {s : Nat} (hs : s < o.size) : deadP1 o' nodes' (π s) = deadP1 o nodes s := by
  rw [Bool.eq_iff_iff, deadP1_iff, deadP1_iff, h.owners s hs, h.row_nil_iff hs,
    mem_roundTargets_rel h hside hs]

theorem round_rel (h : RewRel π ρ o o' r r' nodes nodes') (hside : PruneSide π o nodes nodes') :
    RewRel π ρ o o' r r' (pruneStatesRound o nodes).1 (pruneStatesRound o' nodes').1 ∧
      PruneSide π o (pruneStatesRound o nodes).1 (pruneStatesRound o' nodes').1 := by
  refine ⟨{ h with rows := fun s hs => ?_, tgt := fun s hs t ht => ?_ },
    ⟨hside.fix0, (pruneStatesRound_size _ _).trans hside.size,
      (pruneStatesRound_size _ _).trans hside.size_right⟩⟩
  · rw [pruneStatesRound_getD, pruneStatesRound_getD, cleared_rel h hside hs]
    split
    · exact .refl _
    · exact h.rows s hs
  · rw [pruneStatesRound_getD] at ht
    split at ht
    · cases ht
    · exact h.tgt s hs t ht

theorem round_set_rel (h : RewRel π ρ o o' r r' nodes nodes')
    (hside : PruneSide π o nodes nodes') :
    SetRel π o.size (pruneStatesRound o nodes).2 (pruneStatesRound o' nodes').2 := by
  refine ⟨fun x hx => ?_, fun x hx => ?_, fun s hs => ?_⟩
  · rw [← hside.size]; exact (mem_round_set.mp hx).1
  · rw [← hside.size_right]; exact (mem_round_set.mp hx).1
  · rw [mem_round_set, mem_round_set, cleared_rel h hside hs, deadP1_rel h hside hs,
      hside.size, hside.size_right]
    exact and_congr_left (fun _ => ⟨fun _ => hs, fun _ => h.maps s hs⟩)

theorem subset_rel {n : Nat} (hπ : Renum π n) {a a' b b' : List Nat} (ha : SetRel π n a a')
    (hb : SetRel π n b b') : (∀ x ∈ a', x ∈ b') ↔ (∀ x ∈ a, x ∈ b) := by
  constructor
  · intro hsub x hx
    have hxn := ha.left_lt x hx
    exact (hb.mem_iff x hxn).mp (hsub _ ((ha.mem_iff x hxn).mpr hx))
  · intro hsub x' hx'
    obtain ⟨x, hxn, rfl⟩ := hπ.surj x' (ha.right_lt x' hx')
    exact (hb.mem_iff x hxn).mpr (hsub _ ((ha.mem_iff x hxn).mp hx'))

theorem sameSet_rel {n : Nat} (hπ : Renum π n) {a a' b b' : List Nat} (ha : SetRel π n a a')
    (hb : SetRel π n b b') : sameSet a' b' = sameSet a b := by
  rw [Bool.eq_iff_iff, sameSet_iff, sameSet_iff, subset_rel hπ ha hb, subset_rel hπ hb ha]

/-- Induction on the common fuel, for the two loops at once (`pruneStates_induct` speaks of one
run): the rounds clear corresponding sets, so the exit test gives the same answer in both. -/
theorem pruneStates_rel {fuel : Nat} {prev prev' : List Nat} {out out' : Array (List (Tr K))}
    (h : RewRel π ρ o o' r r' nodes nodes') (hside : PruneSide π o nodes nodes')
    (hprev : SetRel π o.size prev prev') (hp : pruneStates o fuel prev nodes = .ok out)
    (hp' : pruneStates o' fuel prev' nodes' = .ok out') : RewRel π ρ o o' r r' out out' := by
  induction fuel generalizing prev prev' nodes nodes' with
  | zero => nomatch hp
  | succ fuel ih =>
    unfold pruneStates at hp hp'
    simp only at hp hp'
    obtain ⟨hrel, hside'⟩ := round_rel h hside
    have hset := round_set_rel h hside
    rw [sameSet_rel h.renum hset hprev] at hp'
    by_cases hs : sameSet (pruneStatesRound o nodes).2 prev = true
    · rw [if_pos hs] at hp hp'
      cases hp
      cases hp'
      exact hrel
    · rw [if_neg hs] at hp hp'
      exact ih hrel hside' hset hp hp'

variable [LinearOrder K] [IsStrictOrderedRing K]

theorem condition_rel {g g' : Game K} (h : Presents π ρ g g') (hr : TgtOk g)
    {reach reach' : Array K} (hx : ∀ s < g.owners.size, reach'.getD (π s) 0 = reach.getD s 0)
    {st st' : Array Strat} (hst : StratRel π ρ g.owners.size st st') {prune : Bool}
    {nodes nodes' : Array (List (Tr K))} (hc : condition prune g st reach = .ok nodes)
    (hc' : condition prune g' st' reach' = .ok nodes') :
    RewRel π ρ g.owners g'.owners g.rewards g'.rewards nodes nodes' := by
  have hr' := h.tgtOk hr
  cases prune with
  | false =>
    rw [condition_false_eq] at hc hc'
    rw [← Except.ok.inj hc, ← Except.ok.inj hc']
    refine h.rewRel (fun s hs => ?_) (fun s hs t ht => ?_)
    · -- the rows of the unpruned mode are `C02.stratRow` (`Lemmas/CondSpec.lean`): only the Player-1
      -- step of `condRow_perm`
      rw [pruneReachability_getD, pruneReachability_getD, h.owners s hs]
      cases g.owners.getD s .prob with
      | p1 => exact filter_rel (h.rows s hs) (fun t _ => hst s hs t.act)
      | _ => exact h.rows s hs
    · obtain ⟨t', ht', he⟩ := condition_tgt_mem (condition_false_eq g st reach) s t ht
      rw [← he]; exact hr.2 s hs t' ht'
  | true =>
    obtain ⟨base, hb, hp⟩ := condition_true_eq_ok.mp hc
    obtain ⟨base', hb', hp'⟩ := condition_true_eq_ok.mp hc'
    obtain ⟨hsz, hrow⟩ := prunePaths_ok_getD (g := g) hb
    obtain ⟨hsz', hrow'⟩ := prunePaths_ok_getD (g := g') hb'
    replace hsz := hsz.trans hr.1
    replace hsz' := hsz'.trans hr'.1
    have hbase : RewRel π ρ g.owners g'.owners g.rewards g'.rewards base base' := by
      refine h.rewRel (fun s hs => ?_) (fun s hs t ht => ?_)
      · rw [hrow, hrow']; exact condRow_perm h hr hx hst hs
      · rw [hrow] at ht
        obtain ⟨t', ht', he⟩ := condRow_tgt_mem ht
        rw [← he]; exact hr.2 s hs t' ht'
    have hside : PruneSide π g.owners base base' := ⟨h.fix0, hsz, hsz'.trans h.n_owners⟩
    rw [h.n_owners] at hp'
    exact pruneStates_rel hbase hside (SetRel.nil π _) hp hp'

end CR.Present
