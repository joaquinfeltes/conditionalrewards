/-
Two concrete games over `Rat` used by the non-vacuity examples of the solver properties, with the
outcomes of `solveReach` and `solve` on them in both pruning modes.
-/
import CR.Lemmas.Basic
import CR.Lemmas.Rdfs

namespace CR

namespace Examples

def tr (a : String) (p : Rat) (t : Nat) : Tr Rat := ⟨a, p, t⟩

def thr : Rat := 1 / 1000000

/-- the 7-state example game (Player 1 owns states 0 and 3; state 5 is final) -/
def g7 : Game Rat where
  rewards := #[0, 0, 0, 2, 0, 0, 0]
  owners := #[.p1, .prob, .prob, .p1, .prob, .prob, .prob]
  tl := #[[tr "alfa" 0 1, tr "beta" 0 2], [tr "" (3/4) 3, tr "" (1/4) 4],
          [tr "" (1/2) 5, tr "" (1/2) 6], [tr "delta" 0 4, tr "gamma" 0 5],
          [tr "" 1 4], [tr "" 1 5], [tr "" 1 6]]
  finals := [5]

/-- `reverseDfs` does not reduce in the kernel: `dfsLoop` and `List.mergeSort` are defined by well-founded
recursion -/
theorem g7_ord : reverseDfs (g7.tl.toList.map (fun row => row.map (·.tgt))) g7.finals
    = [0, 1, 2, 3] :=
  RdfsLemmas.reverseDfs_eq_of 10 (all := [1, 3, 0, 2, 5]) (by decide +kernel) (by decide)
    (by decide)

/-- a 6-state game with a tie at a Player-1 state and a Player-2 state:
0 (P1): a→1, b→2, c→3;  1 (P2): x→4, y→2;  2, 3 (prob): ½→4, ½→5;  4 final; 5 sink;
state 3 carries reward 1 -/
def g6 : Game Rat where
  rewards := #[0, 0, 0, 1, 0, 0]
  owners := #[.p1, .p2, .prob, .prob, .prob, .prob]
  tl := #[[tr "a" 0 1, tr "b" 0 2, tr "c" 0 3], [tr "x" 0 4, tr "y" 0 2],
          [tr "" (1/2) 4, tr "" (1/2) 5], [tr "" (1/2) 4, tr "" (1/2) 5],
          [tr "" 1 4], [tr "" 1 5]]
  finals := [4]

theorem g6_ord : reverseDfs (g6.tl.toList.map (fun row => row.map (·.tgt))) g6.finals
    = [0, 1, 2, 3] :=
  RdfsLemmas.reverseDfs_eq_of 10 (all := [3, 2, 0, 1, 4]) (by decide +kernel) (by decide)
    (by decide)

/-! The runs of `solveReach` and `solve` on the two games, every field of the outcome: each is
evaluated by the kernel once, here.  The reachability phase does not depend on the pruning mode
(`solveReach_true_eq`), and `solve` starts from its outcome. -/

def g7reach : ReachOut Rat :=
  ⟨#[3/4, 3/4, 1/2, 1, 0, 1, 0], #[some ["alfa"], none, none, some ["gamma"], none, none, none],
    4, [0, 1, 2, 3]⟩

theorem g7_reach_false : solveReach (roundRat 6) thr 1000 false g7 = .ok g7reach := by
  unfold solveReach; rw [g7_ord]; decide +kernel

theorem g7_reach_true : solveReach (roundRat 6) thr 1000 true g7 = .ok g7reach := by
  rw [solveReach_true_eq, g7_reach_false]; decide +kernel

/-- pruning on: the probabilistic state 1 loses its dead successor 4 and is renormalised, the
states 2, 4, 6 are emptied -/
def g7out_true : SolveOut Rat where
  finalStrat := #[some ["alfa"], none, none, some ["gamma"], none, none, none]
  reachStrat := g7reach.strat
  rewards := #[2, 2, 0, 2, 0, 0, 0]
  probs := g7reach.probs
  itReach := 4
  itRew := 3
  probMinRew := #[1, 1, 0, 1, 0, 1, 0]
  rewMinReach := #[2, 2, 0, 2, 0, 0, 0]
  nodes := #[[tr "alfa" 0 1], [tr "" 1 3], [], [tr "gamma" 0 5], [], [tr "" 1 5], []]

theorem g7_solve_true : solve (roundRat 6) thr 1000 true g7 = .ok g7out_true := by
  unfold solve; rw [g7_reach_true]; decide +kernel

def g7out_false : SolveOut Rat where
  finalStrat := #[some ["alfa"], none, none, some ["gamma"], none, none, none]
  reachStrat := g7reach.strat
  rewards := #[3/2, 3/2, 0, 2, 0, 0, 0]
  probs := g7reach.probs
  itReach := 4
  itRew := 3
  probMinRew := #[3/4, 3/4, 1/2, 1, 0, 1, 0]
  rewMinReach := #[3/2, 3/2, 0, 2, 0, 0, 0]
  nodes := #[[tr "alfa" 0 1], [tr "" (3/4) 3, tr "" (1/4) 4], [tr "" (1/2) 5, tr "" (1/2) 6],
    [tr "gamma" 0 5], [tr "" 1 4], [tr "" 1 5], [tr "" 1 6]]

theorem g7_solve_false : solve (roundRat 6) thr 1000 false g7 = .ok g7out_false := by
  unfold solve; rw [g7_reach_false]; decide +kernel

def g6reach : ReachOut Rat :=
  ⟨#[1/2, 1/2, 1/2, 1/2, 1, 0], #[some ["a", "b", "c"], some ["y"], none, none, none, none],
    3, [0, 1, 2, 3]⟩

theorem g6_reach_false : solveReach (roundRat 6) thr 1000 false g6 = .ok g6reach := by
  unfold solveReach; rw [g6_ord]; decide +kernel

theorem g6_reach_true : solveReach (roundRat 6) thr 1000 true g6 = .ok g6reach := by
  rw [solveReach_true_eq, g6_reach_false]; decide +kernel

def g6out_true : SolveOut Rat where
  finalStrat := #[some ["c"], some ["x", "y"], none, none, none, none]
  reachStrat := g6reach.strat
  rewards := #[1, 0, 0, 1, 0, 0]
  probs := g6reach.probs
  itReach := 3
  itRew := 3
  probMinRew := #[1, 1, 1, 1, 1, 0]
  rewMinReach := #[1, 0, 0, 1, 0, 0]
  nodes := #[[tr "a" 0 1, tr "b" 0 2, tr "c" 0 3], [tr "x" 0 4, tr "y" 0 2], [tr "" 1 4],
    [tr "" 1 4], [tr "" 1 4], []]

theorem g6_solve_true : solve (roundRat 6) thr 1000 true g6 = .ok g6out_true := by
  unfold solve; rw [g6_reach_true]; decide +kernel

def g6out_false : SolveOut Rat where
  finalStrat := #[some ["c"], some ["x", "y"], none, none, none, none]
  reachStrat := g6reach.strat
  rewards := #[1, 0, 0, 1, 0, 0]
  probs := g6reach.probs
  itReach := 3
  itRew := 2
  probMinRew := #[1/2, 1/2, 1/2, 1/2, 1, 0]
  rewMinReach := #[1, 0, 0, 1, 0, 0]
  nodes := #[[tr "a" 0 1, tr "b" 0 2, tr "c" 0 3], [tr "x" 0 4, tr "y" 0 2],
    [tr "" (1/2) 4, tr "" (1/2) 5], [tr "" (1/2) 4, tr "" (1/2) 5], [tr "" 1 4], [tr "" 1 5]]

theorem g6_solve_false : solve (roundRat 6) thr 1000 false g6 = .ok g6out_false := by
  unfold solve; rw [g6_reach_false]; decide +kernel

end Examples

end CR
