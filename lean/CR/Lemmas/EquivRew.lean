/-
The reward phase of C13: the reward Bellman operator `Brew`, absorbing states, exact solutions of
the reward equations (`ExactRew`), rankedness and the final strategy lists commute with a
re-presentation of the transition lists (`RewRel`).
-/
import CR.Lemmas.Equiv
import CR.Lemmas.Ranked

namespace CR.Present

open CR CR.VI CR.Rew CR.C06 CR.Rank

variable {K : Type} [Field K] [LinearOrder K] [IsStrictOrderedRing K]

/-- the Player-2 list of the reward phase may be started at the key of any member of the row -/
theorem worstStratRew_eq_from {α : Type} [OfNat α 0] (rnd : α → Int) {v : Array α}
    {row : List (Tr α)} {u : Tr α} (hu : u ∈ row) :
    worstStratRew rnd v row = worstStratFrom rnd (rkey rnd v u) v row := by
  cases row with
  | nil => cases hu
  | cons t0 rest =>
    rw [worstStratRew_cons, worstStratFrom_eq,
      show runMin (rkey rnd v) (rkey rnd v t0) (t0 :: rest) = runMin (rkey rnd v) (rkey rnd v u) _
        from foldl_min_start _ List.mem_cons_self hu]

/-- the "reward game" (owners `o'`, state rewards `r'`, transition lists `nodes'`) is (`o`, `r`,
`nodes`) with the states renumbered by `π`, the transitions inside every state reordered arbitrarily
and the actions renamed by `ρ`.  Unlike `Presents` it does not mention final states, does not ask
`π 0 = 0` or `ρ` injective, and carries the range of the targets (`tgt`, the `TgtOk` of the reach
phase) itself. -/
structure RewRel (π : Nat → Nat) (ρ : String → String) (o o' : Array Owner) (r r' : Array K)
    (nodes nodes' : Array (List (Tr K))) : Prop where
  n_owners : o'.size = o.size
  maps : ∀ s < o.size, π s < o.size
  inj : ∀ s < o.size, ∀ s' < o.size, π s = π s' → s = s'
  owners : ∀ s < o.size, o'.getD (π s) .prob = o.getD s .prob
  rewards : ∀ s < o.size, r'.getD (π s) 0 = r.getD s 0
  rows : ∀ s < o.size, (nodes'.getD (π s) []).Perm ((nodes.getD s []).map (trMap π ρ))
  tgt : ∀ s < o.size, ∀ t ∈ nodes.getD s [], t.tgt < o.size

variable {π : Nat → Nat} {ρ : String → String} {o o' : Array Owner} {r r' : Array K}
  {nodes nodes' : Array (List (Tr K))}

section
omit [LinearOrder K] [IsStrictOrderedRing K]

theorem RewRel.renum (h : RewRel π ρ o o' r r' nodes nodes') : Renum π o.size := ⟨h.maps, h.inj⟩

theorem RewRel.rowRel (h : RewRel π ρ o o' r r' nodes nodes') {x x' : Array K}
    (hx : ∀ s < o.size, x'.getD (π s) 0 = x.getD s 0) {s : Nat} (hs : s < o.size) :
    RowRel π ρ x x' (nodes.getD s []) (nodes'.getD (π s) []) :=
  ⟨h.rows s hs, fun t ht => hx _ (h.tgt s hs t ht)⟩

theorem RewRel.row_nil_iff (h : RewRel π ρ o o' r r' nodes nodes') {s : Nat} (hs : s < o.size) :
    nodes'.getD (π s) [] = [] ↔ nodes.getD s [] = [] := by
  have hl := (h.rows s hs).length_eq
  rw [List.length_map] at hl
  rw [← List.length_eq_zero_iff, ← List.length_eq_zero_iff, hl]

theorem Presents.rewRel {g g' : Game K} (h : Presents π ρ g g')
    (hrows : ∀ s < g.owners.size,
      (nodes'.getD (π s) []).Perm ((nodes.getD s []).map (trMap π ρ)))
    (htgt : ∀ s < g.owners.size, ∀ t ∈ nodes.getD s [], t.tgt < g.owners.size) :
    RewRel π ρ g.owners g'.owners g.rewards g'.rewards nodes nodes' :=
  ⟨h.n_owners, h.maps, h.inj, h.owners, h.rewards, hrows, htgt⟩

end

theorem RewRel.transports_push (h : RewRel π ρ o o' r r' nodes nodes') {y : Array K}
    (hy : y.size = o.size) : Transports π o.size y (push π o.size y) :=
  h.renum.transports_push hy

theorem brew_eq (h : RewRel π ρ o o' r r' nodes nodes') {x x' : Array K}
    (hx : ∀ s < o.size, x'.getD (π s) 0 = x.getD s 0) {s : Nat} (hs : s < o.size) :
    Brew o' r' nodes' x' (π s) = Brew o r nodes x s := by
  have hr := h.rowRel hx hs
  have ho := h.owners s hs
  by_cases hne : nodes.getD s [] = []
  · rw [Brew_nil hne, Brew_nil ((h.row_nil_iff hs).mpr hne)]
  · have hne' := mt (h.row_nil_iff hs).mp hne
    cases hog : o.getD s .prob with
    | prob =>
      rw [Brew_prob hne hog, Brew_prob hne' (ho.trans hog), h.rewards s hs,
        sumOver_rel hr]
    | p1 =>
      rw [Brew_p1 hne hog, Brew_p1 hne' (ho.trans hog), h.rewards s hs,
        maxOver_rel hr]
    | p2 =>
      -- the minimum is started at the first transition, a different one in the two rows: start
      -- both at the same `u`
      obtain ⟨u, hu⟩ := List.exists_mem_of_ne_nil _ hne
      rw [Brew_p2_from hu hog, Brew_p2_from ((mem_rel hr.1).mpr ⟨u, hu, rfl⟩) (ho.trans hog),
        h.rewards s hs, minOver_rel hr, trMap_tgt, hr.2 u hu]

theorem absorbing_iff (h : RewRel π ρ o o' r r' nodes nodes') {s : Nat} (hs : s < o.size) :
    Absorbing o' r' nodes' (π s) ↔ Absorbing o r nodes s := by
  -- `Absorbing`: probabilistic ∧ reward 0 ∧ the row is `[t]` with `t.tgt = s` and `t.p = 1`
  unfold Absorbing
  rw [h.owners s hs, h.rewards s hs]
  refine and_congr_right (fun _ => and_congr_right (fun _ => ⟨?_, ?_⟩))
  · rintro ⟨t', hrow', ht', hp'⟩
    have hp := h.rows s hs
    rw [hrow'] at hp
    have hmap : (nodes.getD s []).map (trMap π ρ) = [t'] := (List.singleton_perm.mp hp).symm
    obtain ⟨t, hrow, rfl⟩ := List.map_eq_singleton_iff.mp hmap
    refine ⟨t, hrow, ?_, hp'⟩
    exact h.inj _ (h.tgt s hs t (by rw [hrow]; exact List.mem_singleton_self t)) _ hs ht'
  · rintro ⟨t, hrow, ht, hp1⟩
    have hp := h.rows s hs
    rw [hrow] at hp
    refine ⟨trMap π ρ t, List.perm_singleton.mp hp, ?_, hp1⟩
    rw [trMap_tgt, ht]

theorem exactRew_iff (h : RewRel π ρ o o' r r' nodes nodes') {w w' : Array K}
    (hw : ∀ s < o.size, w'.getD (π s) 0 = w.getD s 0) :
    ExactRew o' r' nodes' w' ↔ ExactRew o r nodes w := by
  unfold ExactRew
  rw [h.n_owners]
  refine and_congr ?_ ?_ <;>
    refine Iff.trans h.renum.forall_iff (forall₂_congr fun s hs => ?_)
  · rw [brew_eq h hw hs, hw s hs]
  · rw [absorbing_iff h hs, hw s hs]

theorem ranked_push (h : RewRel π ρ o o' r r' nodes nodes') {rk : Nat → Nat} {R : Nat}
    (hrk : Ranked o r nodes rk R) :
    Ranked o' r' nodes' (fun u => rk (invOn π o.size u)) R := by
  refine ⟨fun u hu => ?_, fun u hu hna t' ht' => ?_⟩
  · rw [h.n_owners] at hu
    exact hrk.bound _ (h.renum.invOn_spec hu).1
  · rw [h.n_owners] at hu ⊢
    obtain ⟨s, hs, rfl⟩ := h.renum.surj u hu
    obtain ⟨t, ht, rfl⟩ := (mem_rel (h.rows s hs)).mp ht'
    have hna' : ¬ Absorbing o r nodes s := fun ha => hna ((absorbing_iff h hs).mpr ha)
    obtain ⟨htn, hlt⟩ := hrk.step s hs hna' t ht
    refine ⟨h.maps _ htn, ?_⟩
    rcases hlt with ha | hlt
    · exact Or.inl ((absorbing_iff h htn).mpr ha)
    · right
      show rk (invOn π o.size (π t.tgt)) < rk (invOn π o.size (π s))
      rw [h.renum.invOn_left htn, h.renum.invOn_left hs]
      exact hlt

theorem worstStratRew_perm (rnd : K → Int) {v v' : Array K} {row row' : List (Tr K)}
    (h : RowRel π ρ v v' row row') :
    (worstStratRew rnd v' row').Perm ((worstStratRew rnd v row).map ρ) := by
  cases row with
  | nil => rw [h.1.eq_nil]; exact .refl _
  | cons t0 rest =>
    have hu : trMap π ρ t0 ∈ row' := (mem_rel h.1).mpr ⟨t0, List.mem_cons_self, rfl⟩
    rw [worstStratRew_eq_from rnd hu, worstStratRew_eq_from rnd (List.mem_cons_self (a := t0)),
      rkey_rel rnd h t0 List.mem_cons_self]
    exact worstStratFrom_perm rnd _ h

theorem rewardStrategies_perm (h : RewRel π ρ o o' r r' nodes nodes') (rnd : K → Int)
    {x x' : Array K} (hx : ∀ s < o.size, x'.getD (π s) 0 = x.getD s 0) {s : Nat}
    (hs : s < o.size) :
    StratPerm ρ ((rewardStrategies rnd o nodes x).getD s none)
      ((rewardStrategies rnd o' nodes' x').getD (π s) none) :=
  stratArray_perm (h.owners s hs) (bestStrat_perm rnd (h.rowRel hx hs))
    (worstStratRew_perm rnd (h.rowRel hx hs))

end CR.Present
