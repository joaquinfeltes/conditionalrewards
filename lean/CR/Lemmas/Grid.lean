/-
Helper lemmas for C08 / C11: the three generated games read against ONE list of situations,
`states v L W` (groups of `L * W` tiles in the order `ctors v`, then `lose`, `win`), of which `enc`
is the index function (`valid_pos`, `dec_enc`).  Owners, rewards and transition rows are maps over
it (`owners_eq`, `rewards_eq`, `tl_eq`); the row of a situation is the image of its `rules` under
`enc` (`genRow`), so what C08 and C11 claim about state `k` is a fact about the rules of the
situation at place `k`.  No Mathlib import.
-/
import CR.Model.Gen
import CR.Spec.Roborta
import CR.Lemmas.Basic

namespace CR.GridLemmas
open CR CR.Gen CR.Roborta

section
variable {L W : Nat} {b : Board}

theorem _root_.CR.Roborta.BoardOK.L_pos (h : BoardOK L W b) : 0 < L := h.1

theorem _root_.CR.Roborta.BoardOK.W_pos (h : BoardOK L W b) : 0 < W := h.2.1

theorem _root_.CR.Roborta.BoardOK.rewards_len (h : BoardOK L W b) : b.rewards.length = L :=
  h.2.2.2.2.1

theorem _root_.CR.Roborta.BoardOK.rewards_row (h : BoardOK L W b) :
    ∀ r ∈ b.rewards, r.length = W := h.2.2.2.2.2.1

theorem _root_.CR.Roborta.BoardOK.mv_le (h : BoardOK L W b) : ∀ i < L, ∀ j < W, b.mv i j ≤ 3 :=
  h.2.2.2.2.2.2.2.2

end

theorem getD_append_left {β : Type} (l r : List β) (x : Nat) (d : β) (h : x < l.length) :
    (l ++ r).getD x d = l.getD x d := by
  simp [List.getD_eq_getElem?_getD, List.getElem?_append_left h]

theorem getD_append_add {β : Type} (l r : List β) (y : Nat) (d : β) :
    (l ++ r).getD (l.length + y) d = r.getD y d := by
  simp [List.getD_eq_getElem?_getD, List.getElem?_append_right (Nat.le_add_right _ _)]

theorem getD_replicate_self {β : Type} (m : Nat) (a : β) (x : Nat) :
    (List.replicate m a).getD x a = a := by
  simp [List.getD_eq_getElem?_getD, List.getElem?_replicate]
  split <;> rfl

theorem getD_map {β γ : Type} (f : β → γ) (l : List β) (k : Nat) (d : β) :
    (l.map f).getD k (f d) = f (l.getD k d) := by
  simp only [List.getD_eq_getElem?_getD, List.getElem?_map]
  cases l[k]? <;> rfl

theorem getD_map_of_lt {β γ : Type} (f : β → γ) (l : List β) (k : Nat) (d : β) (d' : γ)
    (h : k < l.length) : (l.map f).getD k d' = f (l.getD k d) := by
  simp only [List.getD_eq_getElem?_getD, List.getElem?_map, List.getElem?_eq_getElem h]
  rfl

theorem eq_map_range {β : Type} (l : List β) (d : β) {n : Nat} (h : l.length = n) :
    l = (List.range n).map (fun i => l.getD i d) := by
  subst h
  apply List.ext_getElem (by simp)
  intro i h1 _
  simp [List.getD_eq_getElem?_getD, h1]

theorem replicate_append {β : Type} (n m : Nat) (a : β) (l : List β) :
    List.replicate n a ++ (List.replicate m a ++ l) = List.replicate (n + m) a ++ l := by
  rw [← List.append_assoc, List.replicate_append_replicate]

theorem idx_lt {L W i j : Nat} (hi : i < L) (hj : j < W) : i * W + j < L * W := by
  calc i * W + j < i * W + W := by omega
    _ = (i + 1) * W := by rw [Nat.succ_mul]
    _ ≤ L * W := Nat.mul_le_mul_right W hi

theorem getD_flatten_uniform {β : Type} (n : Nat) (d : β) :
    ∀ (gs : List (List β)), (∀ g ∈ gs, g.length = n) → ∀ (k x : Nat), x < n →
      gs.flatten.getD (k * n + x) d = (gs.getD k []).getD x d
  | [], _, k, x, _ => by simp
  | g :: gs, h, 0, x, hx => by
    have hg : g.length = n := h g List.mem_cons_self
    simp only [List.flatten_cons, Nat.zero_mul, Nat.zero_add, List.getD_cons_zero]
    exact getD_append_left _ _ _ _ (hg ▸ hx)
  | g :: gs, h, k + 1, x, hx => by
    have hg : g.length = n := h g List.mem_cons_self
    have : (k + 1) * n + x = g.length + (k * n + x) := by
      rw [Nat.succ_mul, hg, Nat.add_comm (k * n) n, Nat.add_assoc]
    rw [List.flatten_cons, this, getD_append_add, List.getD_cons_succ]
    exact getD_flatten_uniform n d gs (fun g' hg' => h g' (List.mem_cons_of_mem _ hg')) k x hx

theorem length_flatten_uniform {β : Type} (n : Nat) :
    ∀ (gs : List (List β)), (∀ g ∈ gs, g.length = n) → gs.flatten.length = gs.length * n
  | [], _ => by simp
  | g :: gs, h => by
    have hg : g.length = n := h g (by simp)
    have := length_flatten_uniform n gs (fun g' hg' => h g' (by simp [hg']))
    rw [List.flatten_cons, List.length_append, this, hg, List.length_cons, Nat.succ_mul]
    omega

theorem grid_eq_flatten {β : Type} (L W : Nat) (f : Nat → Nat → β) :
    grid L W f = ((List.range L).map (fun i => (List.range W).map (fun j => f i j))).flatten := by
  simp [grid, List.flatMap]

theorem grid_rows_uniform {β : Type} (L W : Nat) (f : Nat → Nat → β) :
    ∀ g ∈ (List.range L).map (fun i => (List.range W).map (fun j => f i j)), g.length = W := by
  intro g hg
  obtain ⟨i, _, rfl⟩ := List.mem_map.1 hg
  rw [List.length_map, List.length_range]

@[simp] theorem grid_length {β : Type} (L W : Nat) (f : Nat → Nat → β) :
    (grid L W f).length = L * W := by
  rw [grid_eq_flatten, length_flatten_uniform W _ (grid_rows_uniform L W f), List.length_map,
    List.length_range]

theorem grid_getD {β : Type} (L W : Nat) (f : Nat → Nat → β) (i j : Nat) (d : β)
    (hi : i < L) (hj : j < W) : (grid L W f).getD (i * W + j) d = f i j := by
  rw [grid_eq_flatten, getD_flatten_uniform W d _ (grid_rows_uniform L W f) i j hj]
  simp [List.getD_eq_getElem?_getD, List.getElem?_range hi, List.getElem?_range hj]

theorem mem_grid {β : Type} {L W : Nat} {f : Nat → Nat → β} {y : β} :
    y ∈ grid L W f ↔ ∃ i, i < L ∧ ∃ j, j < W ∧ f i j = y := by
  simp only [grid, List.mem_flatMap, List.mem_range, List.mem_map]

theorem grid_congr {β : Type} {L W : Nat} {f g : Nat → Nat → β}
    (h : ∀ i < L, ∀ j < W, f i j = g i j) : grid L W f = grid L W g := by
  unfold grid
  rw [List.flatMap_def, List.flatMap_def]
  exact congrArg _ (List.map_congr_left fun i hi => List.map_congr_left fun j hj =>
    h i (List.mem_range.1 hi) j (List.mem_range.1 hj))

theorem map_grid {β γ : Type} (g : β → γ) (L W : Nat) (f : Nat → Nat → β) :
    (grid L W f).map g = grid L W (fun i j => g (f i j)) := by
  simp only [grid, List.map_flatMap, List.map_map]; rfl

theorem grid_const {β : Type} (L W : Nat) (a : β) : grid L W (fun _ _ => a) = List.replicate (L * W) a := by
  rw [grid_eq_flatten, List.map_const', List.map_const', List.length_range, List.length_range,
    List.flatten_replicate_replicate]

theorem filterMap_eq_map_of_some {β γ : Type} (f : β → Option γ) (g : β → γ) :
    ∀ (l : List β), (∀ x ∈ l, f x = some (g x)) → l.filterMap f = l.map g
  | [], _ => rfl
  | x :: l, h => by
    have hx : f x = some (g x) := h x (by simp)
    rw [List.filterMap_cons, hx, List.map_cons,
      filterMap_eq_map_of_some f g l (fun y hy => h y (by simp [hy]))]

theorem gridOpt_eq_grid {β : Type} (L W : Nat) (f : Nat → Nat → Option β) (g : Nat → Nat → β)
    (h : ∀ i, i < L → ∀ j, j < W → f i j = some (g i j)) : gridOpt L W f = grid L W g := by
  unfold gridOpt grid
  rw [List.flatMap_def, List.flatMap_def]
  congr 1
  apply List.map_congr_left
  intro i hi
  exact filterMap_eq_map_of_some _ _ _ (fun j hj => h i (by simpa using hi) j (by simpa using hj))

/-! What each builder of `CR/Model/Gen.lean` writes at tile `(i, j)`, copied from the `fun i j => …` in
its body: `X_eq : X … = grid L W (row …)` below holds by `rfl`, or, for the two `gridOpt` builders
(`lrRow`, `dlrRow`), once the arrows are known to be `≤ 3`. -/

section Rows
variable {α : Type} [Sub α] [OfNat α 0] [OfNat α 1]

def p2Row (W : Nat) (b : Board) (offR offY i j : Nat) : List (Tr α) :=
  if b.mv i j = 3 then [act "Green" (offR + i * W + j)]
  else [act "Green" (offR + i * W + j), act "Yellow" (offY + i * W + j)]

def downRow (L W off : Nat) (winning : Option Nat) (i j : Nat) : List (Tr α) :=
  match winning with
  | none => [act "Down" (off + i * W + j)]
  | some w => if i < L - 1 then [act "Down" (off + i * W + j + W)] else [act "Down" w]

def lrPair (W offL offR i j : Nat) : Tr α × Tr α :=
  if offL ≠ offR then (act "Left" (offL + i * W + j), act "Right" (offR + i * W + j))
  else if j = 0 then (act "Left" (offL + i * W + W - 1), act "Right" (offR + i * W + (j + 1) % W))
  else if j = W - 1 then (act "Left" (offL + i * W + j - 1), act "Right" (offR + i * W))
  else (act "Left" (offL + i * W + j - 1), act "Right" (offR + i * W + j + 1))

def lrRow (W : Nat) (b : Board) (offL offR i j : Nat) : List (Tr α) :=
  match b.mv i j with
  | 0 => [(lrPair W offL offR i j).1]
  | 1 => [(lrPair W offL offR i j).1, (lrPair W offL offR i j).2]
  | 2 => [(lrPair W offL offR i j).2]
  | _ => [act "Etha" 0]

def tileRow (W : Nat) (p : α) (b : Board) (off lose i j : Nat) : List (Tr α) :=
  if b.ls i j = 1 then [pr p lose, pr (1 - p) (off + i * W + j)]
  else [pr 1 (off + i * W + j)]

def rdRow (L W : Nat) (p : α) (off win i j : Nat) : List (Tr α) :=
  [pr p (off + i * W + j),
   if i < L - 1 then pr (1 - p) (off + i * W + j + W) else pr (1 - p) win]

def rlRow (W : Nat) (p : α) (off i j : Nat) : List (Tr α) :=
  [pr p (off + i * W + j),
   if j = 0 then pr (1 - p) (off + i * W + W - 1) else pr (1 - p) (off + i * W + j - 1)]

def rrRow (W : Nat) (p : α) (off i j : Nat) : List (Tr α) :=
  [pr p (off + i * W + j),
   if j = W - 1 then pr (1 - p) (off + i * W) else pr (1 - p) (off + i * W + j + 1)]

def dlrRow (W : Nat) (b : Board) (offD offL offR i j : Nat) : List (Tr α) :=
  match b.mv i j with
  | 0 => [act "Down" (offD + i * W + j), act "Left" (offL + i * W + j)]
  | 1 => [act "Down" (offD + i * W + j), act "Left" (offL + i * W + j),
          act "Right" (offR + i * W + j)]
  | 2 => [act "Down" (offD + i * W + j), act "Right" (offR + i * W + j)]
  | _ => [act "Down" (offD + i * W + j)]

def lightRow (W : Nat) (p : α) (offOk offBreak i j : Nat) : List (Tr α) :=
  [pr p (offBreak + i * W + j), pr (1 - p) (offOk + i * W + j)]

theorem mv_cases {L W : Nat} {b : Board} (hmv : ∀ i < L, ∀ j < W, b.mv i j ≤ 3) {i j : Nat}
    (hi : i < L) (hj : j < W) : b.mv i j = 0 ∨ b.mv i j = 1 ∨ b.mv i j = 2 ∨ b.mv i j = 3 := by
  have := hmv i hi j hj
  omega

section
-- the model's builders take all three instances (every instance variable over `α` is added to a
-- definition), so these statements must name them although their own text does not need them
set_option linter.unusedSectionVars false

theorem playerTwo_eq (L W : Nat) (b : Board) (offR offY : Nat) :
    (playerTwo L W b offR offY : List (List (Tr α))) = grid L W (p2Row W b offR offY) := rfl

theorem playerOneDown_eq (L W off : Nat) (w : Option Nat) :
    (playerOneDown L W off w : List (List (Tr α))) = grid L W (downRow L W off w) := rfl

theorem probTileBreak_eq (L W : Nat) (p : α) (b : Board) (off lose : Nat) :
    probTileBreak L W p b off lose = grid L W (tileRow W p b off lose) := rfl

theorem probRobotDownBreak_eq (L W : Nat) (p : α) (off win : Nat) :
    probRobotDownBreak L W p off win = grid L W (rdRow L W p off win) := rfl

theorem probRobotLeftBreak_eq (L W : Nat) (p : α) (off : Nat) :
    probRobotLeftBreak L W p off = grid L W (rlRow W p off) := rfl

theorem probRobotRightBreak_eq (L W : Nat) (p : α) (off : Nat) :
    probRobotRightBreak L W p off = grid L W (rrRow W p off) := rfl

theorem probLightBreak_eq (L W : Nat) (p : α) (offOk offBreak : Nat) :
    probLightBreak L W p offOk offBreak = grid L W (lightRow W p offOk offBreak) := rfl

end

end Rows

section
variable {α : Type} [OfNat α 0]

theorem playerOneLeftRight_eq {L W : Nat} {b : Board} (hmv : ∀ i < L, ∀ j < W, b.mv i j ≤ 3)
    (offL offR : Nat) :
    (playerOneLeftRight L W b offL offR : List (List (Tr α)))
      = grid L W (lrRow W b offL offR) := by
  unfold playerOneLeftRight
  apply gridOpt_eq_grid
  intro i hi j hj
  -- both sides are a `match` on `b.mv i j`; at each of its four values they compute to the same
  dsimp only [lrRow, lrPair]
  rcases mv_cases hmv hi hj with h | h | h | h <;> rw [h] <;> rfl

theorem playerOneDownLeftRight_eq {L W : Nat} {b : Board}
    (hmv : ∀ i < L, ∀ j < W, b.mv i j ≤ 3) (offD offL offR : Nat) :
    (playerOneDownLeftRight L W b offD offL offR : List (List (Tr α)))
      = grid L W (dlrRow W b offD offL offR) := by
  unfold playerOneDownLeftRight
  apply gridOpt_eq_grid
  intro i hi j hj
  dsimp only [dlrRow]
  rcases mv_cases hmv hi hj with h | h | h | h <;> rw [h] <;> rfl

end

theorem grids_uniform {β : Type} (L W : Nat) (fs : List (Nat → Nat → β)) :
    ∀ g ∈ fs.map (grid L W), g.length = L * W := by
  intro g hg
  obtain ⟨f, _, rfl⟩ := List.mem_map.1 hg
  exact grid_length L W f

theorem grids_length {β : Type} (L W : Nat) (fs : List (Nat → Nat → β)) :
    (fs.map (grid L W)).flatten.length = fs.length * (L * W) := by
  rw [length_flatten_uniform (L * W) _ (grids_uniform L W fs), List.length_map]

theorem gridGroups_getD {β : Type} (L W : Nat) (fs : List (Nat → Nat → β)) (tail : List β)
    (d : β) (k i j : Nat) (hk : k < fs.length) (hi : i < L) (hj : j < W) :
    ((fs.map (grid L W)).flatten ++ tail).getD (k * (L * W) + (i * W + j)) d
      = (fs.getD k (fun _ _ => d)) i j := by
  have hx := idx_lt hi hj (L := L) (W := W)
  rw [getD_append_left, getD_flatten_uniform (L * W) d _ (grids_uniform L W fs) k _ hx]
  · rw [getD_map_of_lt (grid L W) fs k (fun _ _ => d) [] hk, grid_getD _ _ _ _ _ _ hi hj]
  · rw [grids_length]
    exact idx_lt hk hx

theorem gridGroups_getD_tail {β : Type} (L W : Nat) (fs : List (Nat → Nat → β)) (tail : List β)
    (d : β) (y : Nat) :
    ((fs.map (grid L W)).flatten ++ tail).getD (fs.length * (L * W) + y) d = tail.getD y d := by
  rw [← grids_length, getD_append_add]

theorem gridGroups_length {β : Type} (L W : Nat) (fs : List (Nat → Nat → β)) (tail : List β) :
    ((fs.map (grid L W)).flatten ++ tail).length = fs.length * (L * W) + tail.length := by
  rw [List.length_append, grids_length]

theorem mem_gridGroups {β : Type} {L W : Nat} {fs : List (Nat → Nat → β)} {tail : List β}
    {y : β} :
    y ∈ (fs.map (grid L W)).flatten ++ tail
      ↔ (∃ f ∈ fs, ∃ i, i < L ∧ ∃ j, j < W ∧ f i j = y) ∨ y ∈ tail := by
  simp only [List.mem_append, List.mem_flatten, List.mem_map]
  constructor
  · rintro (⟨_, ⟨f, hf, rfl⟩, hy⟩ | h)
    · exact Or.inl ⟨f, hf, mem_grid.1 hy⟩
    · exact Or.inr h
  · rintro (⟨f, hf, h⟩ | h)
    · exact Or.inl ⟨_, ⟨f, hf, rfl⟩, mem_grid.2 h⟩
    · exact Or.inr h

theorem leftOf_zero {W : Nat} (hW : 0 < W) : leftOf W 0 = W - 1 := by
  unfold leftOf; rw [Nat.zero_add]; exact Nat.mod_eq_of_lt (by omega)

theorem leftOf_pos {W j : Nat} (h0 : 0 < j) (hj : j < W) : leftOf W j = j - 1 := by
  unfold leftOf
  rw [Nat.sub_add_comm h0, Nat.add_mod_right, Nat.mod_eq_of_lt (Nat.lt_of_le_of_lt (Nat.sub_le j 1) hj)]

theorem rightOf_last {W : Nat} (hW : 0 < W) : rightOf W (W - 1) = 0 := by
  unfold rightOf; rw [Nat.sub_add_cancel hW, Nat.mod_self]

theorem rightOf_lt {W j : Nat} (h : j + 1 < W) : rightOf W j = j + 1 := Nat.mod_eq_of_lt h

/-! The generator's index arithmetic is `leftOf`, `rightOf` and "next row" (`next_nf` below):
these normal forms are the only arithmetic about it. -/

theorem left_nf {W j : Nat} (hW : 0 < W) (hj : j < W) (x : Nat) :
    (if j = 0 then x + W - 1 else x + j - 1) = x + leftOf W j := by
  split
  · next h => rw [h, leftOf_zero hW, Nat.add_sub_assoc hW]
  · next h => rw [leftOf_pos (Nat.pos_of_ne_zero h) hj, Nat.add_sub_assoc (Nat.pos_of_ne_zero h)]

theorem right_nf {W j : Nat} (hW : 0 < W) (hj : j < W) (x : Nat) :
    (if j = W - 1 then x else x + j + 1) = x + rightOf W j := by
  split
  · next h => rw [h, rightOf_last hW]; rfl
  · next h => rw [rightOf_lt (by omega), Nat.add_assoc]

section
variable {α : Type} [OfNat α 0]

theorem lrPair_wrap {W j : Nat} (hW : 0 < W) (hj : j < W) (off i : Nat) :
    (lrPair W off off i j : Tr α × Tr α)
      = (act "Left" (off + i * W + leftOf W j), act "Right" (off + i * W + rightOf W j)) := by
  rw [lrPair, if_neg (fun h => h rfl)]
  by_cases h0 : j = 0
  · subst h0; rw [if_pos rfl, ← left_nf hW hj, if_pos rfl]; rfl
  · rw [if_neg h0, ← left_nf hW hj, if_neg h0, ← right_nf hW hj]
    split <;> rfl

theorem lrPair_ne {W offL offR : Nat} (h : offL ≠ offR) (i j : Nat) :
    (lrPair W offL offR i j : Tr α × Tr α)
      = (act "Left" (offL + i * W + j), act "Right" (offR + i * W + j)) := by
  simp [lrPair, h]

end

/- The defining equations of `enc`, one per variant and form of situation, each by `rfl`, as a simp
set.  This file itself needs only the three `_light` ones (through `by simp` in `valid_pos`: there
`enc` gives `i * W + j`, not `0 * (L * W) + i * W + j`) and the six `_lose`/`_win` ones (`genGame_tl`,
`genGame_finals`).  Which group a valid situation lies in, with its bounds, is said once, by
`valid_pos` below; these equations say only what `enc` unfolds to. -/
@[simp] theorem enc_A_light (L W i j : Nat) : enc .A L W (.light i j) = i * W + j := rfl
@[simp] theorem enc_A_down (L W i j : Nat) : enc .A L W (.down i j) = 1 * (L * W) + i * W + j := rfl
@[simp] theorem enc_A_lr (L W i j : Nat) : enc .A L W (.lr i j) = 2 * (L * W) + i * W + j := rfl
@[simp] theorem enc_A_land (L W i j : Nat) : enc .A L W (.land i j) = 3 * (L * W) + i * W + j := rfl
@[simp] theorem enc_A_lose (L W : Nat) : enc .A L W .lose = 4 * (L * W) := rfl
@[simp] theorem enc_A_win (L W : Nat) : enc .A L W .win = 4 * (L * W) + 1 := rfl
@[simp] theorem enc_B_light (L W i j : Nat) : enc .B L W (.light i j) = i * W + j := rfl
@[simp] theorem enc_B_down (L W i j : Nat) : enc .B L W (.down i j) = 1 * (L * W) + i * W + j := rfl
@[simp] theorem enc_B_lr (L W i j : Nat) : enc .B L W (.lr i j) = 2 * (L * W) + i * W + j := rfl
@[simp] theorem enc_B_land (L W i j : Nat) : enc .B L W (.land i j) = 3 * (L * W) + i * W + j := rfl
@[simp] theorem enc_B_tryDown (L W i j : Nat) : enc .B L W (.tryDown i j) = 4 * (L * W) + i * W + j := rfl
@[simp] theorem enc_B_tryLeft (L W i j : Nat) : enc .B L W (.tryLeft i j) = 5 * (L * W) + i * W + j := rfl
@[simp] theorem enc_B_tryRight (L W i j : Nat) : enc .B L W (.tryRight i j) = 6 * (L * W) + i * W + j := rfl
@[simp] theorem enc_B_lose (L W : Nat) : enc .B L W .lose = 7 * (L * W) := rfl
@[simp] theorem enc_B_win (L W : Nat) : enc .B L W .win = 7 * (L * W) + 1 := rfl
@[simp] theorem enc_C_light (L W i j : Nat) : enc .C L W (.light i j) = i * W + j := rfl
@[simp] theorem enc_C_down (L W i j : Nat) : enc .C L W (.down i j) = 1 * (L * W) + i * W + j := rfl
@[simp] theorem enc_C_lr (L W i j : Nat) : enc .C L W (.lr i j) = 2 * (L * W) + i * W + j := rfl
@[simp] theorem enc_C_free (L W i j : Nat) : enc .C L W (.free i j) = 3 * (L * W) + i * W + j := rfl
@[simp] theorem enc_C_land (L W i j : Nat) : enc .C L W (.land i j) = 4 * (L * W) + i * W + j := rfl
@[simp] theorem enc_C_tryDown (L W i j : Nat) : enc .C L W (.tryDown i j) = 5 * (L * W) + i * W + j := rfl
@[simp] theorem enc_C_tryLeft (L W i j : Nat) : enc .C L W (.tryLeft i j) = 6 * (L * W) + i * W + j := rfl
@[simp] theorem enc_C_tryRight (L W i j : Nat) : enc .C L W (.tryRight i j) = 7 * (L * W) + i * W + j := rfl
@[simp] theorem enc_C_lightG (L W i j : Nat) : enc .C L W (.lightG i j) = 8 * (L * W) + i * W + j := rfl
@[simp] theorem enc_C_lightY (L W i j : Nat) : enc .C L W (.lightY i j) = 9 * (L * W) + i * W + j := rfl
@[simp] theorem enc_C_lose (L W : Nat) : enc .C L W .lose = 10 * (L * W) := rfl
@[simp] theorem enc_C_win (L W : Nat) : enc .C L W .win = 10 * (L * W) + 1 := rfl

/-- number of `L * W`-sized groups of states -/
def nGroups : Variant → Nat
  | .A => 4 | .B => 7 | .C => 10

theorem enc_lose_eq (v : Variant) (L W : Nat) : enc v L W .lose = nGroups v * (L * W) := by
  cases v <;> rfl

theorem enc_win_eq (v : Variant) (L W : Nat) : enc v L W .win = nGroups v * (L * W) + 1 := by
  cases v <;> rfl

/-- the situations that live on a tile, in the order of their groups of `L * W` states -/
def ctors : Variant → List (Nat → Nat → RState)
  | .A => [.light, .down, .lr, .land]
  | .B => [.light, .down, .lr, .land, .tryDown, .tryLeft, .tryRight]
  | .C => [.light, .down, .lr, .free, .land, .tryDown, .tryLeft, .tryRight, .lightG, .lightY]

theorem ctors_length (v : Variant) : (ctors v).length = nGroups v := by cases v <;> rfl

/-- all situations of a variant on an `L × W` board, in the generator's order -/
def states (v : Variant) (L W : Nat) : List RState :=
  ((ctors v).map (grid L W)).flatten ++ [.lose, .win]

theorem states_length (v : Variant) (L W : Nat) :
    (states v L W).length = nGroups v * (L * W) + 2 := by
  rw [states, gridGroups_length, ctors_length]; rfl

/-- `Pos v L W s e`: situation `s` is `lose`, `win`, or the situation of group `k` at tile `(i, j)`,
and `e` is its place in `states v L W` -/
inductive Pos (v : Variant) (L W : Nat) : RState → Nat → Prop
  | tile (k : Nat) (c : Nat → Nat → RState) (i j : Nat) (hk : (ctors v)[k]? = some c)
      (hi : i < L) (hj : j < W) : Pos v L W (c i j) (k * (L * W) + (i * W + j))
  | lose : Pos v L W .lose (nGroups v * (L * W))
  | win : Pos v L W .win (nGroups v * (L * W) + 1)

theorem Pos.tile_of_eq {v : Variant} {L W : Nat} (k : Nat) {c : Nat → Nat → RState} {i j : Nat}
    (hk : (ctors v)[k]? = some c) (hi : i < L) (hj : j < W) {e : Nat}
    (he : e = k * (L * W) + i * W + j) : Pos v L W (c i j) e := by
  rw [he, Nat.add_assoc]; exact .tile k c i j hk hi hj

/-- The one table of the layout: in each variant, which group a valid situation belongs to, with
`enc` as its place.  Bounds, decoding, owners and rewards are read off `Pos`, not off `enc`. -/
theorem valid_pos {L W : Nat} {b : Board} :
    ∀ {v : Variant} {s : RState}, Valid v L W b s → Pos v L W s (enc v L W s)
  | .A, .light i j => fun h => .tile_of_eq 0 rfl h.1 h.2 (by simp)
  | .A, .down i j => fun h => .tile_of_eq 1 rfl h.1 h.2 rfl
  | .A, .lr i j => fun h => .tile_of_eq 2 rfl h.1 h.2.1 rfl
  | .A, .land i j => fun h => .tile_of_eq 3 rfl h.1 h.2 rfl
  | .B, .light i j => fun h => .tile_of_eq 0 rfl h.1 h.2 (by simp)
  | .B, .down i j => fun h => .tile_of_eq 1 rfl h.1 h.2 rfl
  | .B, .lr i j => fun h => .tile_of_eq 2 rfl h.1 h.2.1 rfl
  | .B, .land i j => fun h => .tile_of_eq 3 rfl h.1 h.2 rfl
  | .B, .tryDown i j => fun h => .tile_of_eq 4 rfl h.2.1 h.2.2 rfl
  | .B, .tryLeft i j => fun h => .tile_of_eq 5 rfl h.2.1 h.2.2 rfl
  | .B, .tryRight i j => fun h => .tile_of_eq 6 rfl h.2.1 h.2.2 rfl
  | .C, .light i j => fun h => .tile_of_eq 0 rfl h.1 h.2 (by simp)
  | .C, .down i j => fun h => .tile_of_eq 1 rfl h.1 h.2 rfl
  | .C, .lr i j => fun h => .tile_of_eq 2 rfl h.1 h.2.1 rfl
  | .C, .free i j => fun h => .tile_of_eq 3 rfl h.2.1 h.2.2 rfl
  | .C, .land i j => fun h => .tile_of_eq 4 rfl h.1 h.2 rfl
  | .C, .tryDown i j => fun h => .tile_of_eq 5 rfl h.2.1 h.2.2 rfl
  | .C, .tryLeft i j => fun h => .tile_of_eq 6 rfl h.2.1 h.2.2 rfl
  | .C, .tryRight i j => fun h => .tile_of_eq 7 rfl h.2.1 h.2.2 rfl
  | .C, .lightG i j => fun h => .tile_of_eq 8 rfl h.2.1 h.2.2 rfl
  | .C, .lightY i j => fun h => .tile_of_eq 9 rfl h.2.1 h.2.2.1 rfl
  | .A, .lose => fun _ => Pos.lose | .B, .lose => fun _ => Pos.lose | .C, .lose => fun _ => Pos.lose
  | .A, .win => fun _ => Pos.win | .B, .win => fun _ => Pos.win | .C, .win => fun _ => Pos.win
  | .A, .free .. | .A, .lightG .. | .A, .lightY ..
  | .B, .free .. | .B, .lightG .. | .B, .lightY .. => fun h => nomatch h.1
  | .A, .tryDown .. | .A, .tryLeft .. | .A, .tryRight .. => fun h => absurd rfl h.1

theorem Pos.lt {v : Variant} {L W : Nat} {s : RState} {e : Nat} (h : Pos v L W s e) :
    e < nGroups v * (L * W) + 2 := by
  cases h with
  | tile k c i j hk hi hj =>
    have hk' : k < nGroups v := by
      rw [← ctors_length]; exact (List.getElem?_eq_some_iff.1 hk).1
    exact Nat.lt_add_right 2 (idx_lt hk' (idx_lt hi hj))
  | lose => omega
  | win => omega

theorem Pos.getD {v : Variant} {L W : Nat} {s : RState} {e : Nat} (h : Pos v L W s e) :
    (states v L W).getD e .lose = s := by
  cases h with
  | tile k c i j hk hi hj =>
    obtain ⟨hk', hc⟩ := List.getElem?_eq_some_iff.1 hk
    rw [states, gridGroups_getD L W _ _ _ k i j hk' hi hj, List.getD_eq_getElem?_getD, hk]; rfl
  | lose => rw [states, ← ctors_length, ← Nat.add_zero (_ * _), gridGroups_getD_tail]; rfl
  | win => rw [states, ← ctors_length, gridGroups_getD_tail]; rfl

theorem enc_lt {v : Variant} {L W : Nat} {b : Board} {s : RState} (hs : Valid v L W b s) :
    enc v L W s < nGroups v * (L * W) + 2 := (valid_pos hs).lt

theorem dec_enc {v : Variant} {L W : Nat} {b : Board} {s : RState} (hs : Valid v L W b s) :
    (states v L W).getD (enc v L W s) .lose = s := (valid_pos hs).getD

theorem getD_states_map {γ : Type} {v : Variant} {L W : Nat} {b : Board} {s : RState}
    (f : RState → γ) (d : γ) (hs : Valid v L W b s) :
    ((states v L W).map f).getD (enc v L W s) d = f s := by
  rw [getD_map_of_lt f _ _ .lose d (by rw [states_length]; exact enc_lt hs), dec_enc hs]

section
variable {α : Type} [Sub α] [OfNat α 0] [OfNat α 1]

theorem owners_eq (v : Variant) (L W : Nat) (b : Board) (q : Params α) :
    (genGame v L W b q).owners = (states v L W).map owner := by
  -- `dsimp` first: it projects the field out of the record, so `simp` never enters the other three;
  -- `+arith` for `L * W * 2 = L * W + L * W` and the like under `replicate`
  cases v <;> dsimp only [genGame, gameA, gameB, gameC] <;>
    simp +arith only [states, ctors, map_grid, owner, grid_const,
      List.map_append, List.map_cons, List.map_nil, List.flatten_cons,
      List.flatten_nil, List.append_assoc, List.append_nil, replicate_append, Nat.mul_one]

theorem flatRewards_eq_grid {L W : Nat} {b : Board} (hb : BoardOK L W b) :
    flatRewards b = grid L W b.rw := by
  rw [flatRewards, grid, List.flatMap_def, List.flatMap_def, List.map_id]
  conv => lhs; rw [eq_map_range b.rewards [] hb.rewards_len]
  congr 1
  apply List.map_congr_left
  intro i hi
  exact eq_map_range _ 0
    (hb.rewards_row _ (getD_mem_of_lt _ _ _ (by simpa [hb.rewards_len] using hi)))

theorem rewards_eq {v : Variant} {L W : Nat} {b : Board} (hb : BoardOK L W b) (q : Params α) :
    (genGame v L W b q).rewards = (states v L W).map (reward b) := by
  cases v <;> dsimp only [genGame, gameA, gameB, gameC] <;>
    simp +arith only [states, ctors, map_grid, reward, grid_const, flatRewards_eq_grid hb,
      List.map_append, List.map_cons, List.map_nil, List.flatten_cons,
      List.flatten_nil, List.append_assoc, List.append_nil, replicate_append]

theorem owners_bisim {v : Variant} {L W : Nat} {b : Board} (q : Params α) {s : RState}
    (hs : Valid v L W b s) :
    (genGame v L W b q).owners.getD (enc v L W s) .prob = owner s := by
  rw [owners_eq, getD_states_map owner _ hs]

theorem rewards_bisim {v : Variant} {L W : Nat} {b : Board} (hb : BoardOK L W b) (q : Params α)
    {s : RState} (hs : Valid v L W b s) :
    (genGame v L W b q).rewards.getD (enc v L W s) 0 = reward b s := by
  rw [rewards_eq hb, getD_states_map (reward b) _ hs]

theorem genGame_owners_length (v : Variant) (L W : Nat) (b : Board) (q : Params α) :
    (genGame v L W b q).owners.length = nGroups v * (L * W) + 2 := by
  rw [owners_eq, List.length_map, states_length]

theorem genGame_rewards_length {v : Variant} {L W : Nat} {b : Board} (hb : BoardOK L W b)
    (q : Params α) : (genGame v L W b q).rewards.length = nGroups v * (L * W) + 2 := by
  rw [rewards_eq hb, List.length_map, states_length]

end

/-! Each builder implements its rule, for any numbering `e` that agrees with its offsets. -/

section Builders
variable {α : Type}

/-- the image of a labelled successor under a numbering -/
def tr (e : RState → Nat) (x : Succ α) : Tr α := { act := x.act, p := x.p, tgt := e x.tgt }

variable (e : RState → Nat) {L W i j : Nat} {b : Board}

theorem e_below : e (below L i j) = if i + 1 < L then e (.land (i + 1) j) else e .win := by
  unfold below; split <;> rfl

theorem next_nf {β : Type} (f : Nat → β) (off w : Nat) :
    (if i < L - 1 then f (off + i * W + j + W) else f w)
      = f (if i + 1 < L then off + (i + 1) * W + j else w) := by
  by_cases h : i + 1 < L
  · rw [if_pos h, if_pos (by omega), Nat.succ_mul]; congr 1; omega
  · rw [if_neg h, if_neg (by omega)]

section
variable [OfNat α 0]

theorem p2Row_eq {g y : RState} {offR offY : Nat} (hg : e g = offR + i * W + j)
    (hy : e y = offY + i * W + j) :
    (p2Row W b offR offY i j : List (Tr α))
      = (if b.mv i j = 3 then [a "Green" g] else [a "Green" g, a "Yellow" y]).map (tr e) := by
  rw [p2Row, ← hg, ← hy]; split <;> rfl

theorem downRow_none_eq {t : RState} {off : Nat} (ht : e t = off + i * W + j) :
    (downRow L W off none i j : List (Tr α)) = [a "Down" t].map (tr e) := by
  rw [downRow, ← ht]; rfl

theorem downRow_some_eq {off w : Nat} (hland : e (.land (i + 1) j) = off + (i + 1) * W + j)
    (hwin : e .win = w) :
    (downRow L W off (some w) i j : List (Tr α)) = [a "Down" (below L i j)].map (tr e) := by
  simp only [downRow, next_nf (fun t => [(act "Down" t : Tr α)]), List.map, tr, a, e_below, hland, hwin]
  rfl

end

section
variable [Sub α] [OfNat α 1]

theorem tileRow_eq {t : RState} {p : α} {off lose : Nat} (hlose : e .lose = lose)
    (ht : e t = off + i * W + j) :
    tileRow W p b off lose i j
      = (if b.ls i j = 1 then [c p .lose, c (1 - p) t] else [c 1 t]).map (tr e) := by
  rw [tileRow, ← hlose, ← ht]; split <;> rfl

theorem rdRow_eq {p : α} {off win : Nat} (h0 : e (.land i j) = off + i * W + j)
    (hland : e (.land (i + 1) j) = off + (i + 1) * W + j) (hwin : e .win = win) :
    rdRow L W p off win i j = [c p (.land i j), c (1 - p) (below L i j)].map (tr e) := by
  simp only [rdRow, next_nf (pr (1 - p)), List.map, tr, c, e_below, hland, hwin, h0]
  rfl

theorem rlRow_eq {p : α} {off : Nat} (hW : 0 < W) (hj : j < W)
    (h : ∀ j', e (.land i j') = off + i * W + j') :
    rlRow W p off i j = [c p (.land i j), c (1 - p) (.land i (leftOf W j))].map (tr e) := by
  rw [rlRow, ← apply_ite (pr (1 - p)), left_nf hW hj, ← h, ← h]; rfl

theorem rrRow_eq {p : α} {off : Nat} (hW : 0 < W) (hj : j < W)
    (h : ∀ j', e (.land i j') = off + i * W + j') :
    rrRow W p off i j = [c p (.land i j), c (1 - p) (.land i (rightOf W j))].map (tr e) := by
  rw [rrRow, ← apply_ite (pr (1 - p)), right_nf hW hj, ← h, ← h]; rfl

theorem lightRow_eq {p : α} {t u : RState} {offOk offBreak : Nat} (ht : e t = offBreak + i * W + j)
    (hu : e u = offOk + i * W + j) :
    lightRow W p offOk offBreak i j = [c p t, c (1 - p) u].map (tr e) := by
  rw [lightRow, ← ht, ← hu]; rfl

end

section
variable [Sub α] [OfNat α 0] [OfNat α 1]

theorem lrRow_eq (v : Variant) (q : Params α) {offL offR : Nat}
    (hp : (lrPair W offL offR i j : Tr α × Tr α)
      = (act "Left" (e (if v = .A then .land i (leftOf W j) else .tryLeft i j)),
         act "Right" (e (if v = .A then .land i (rightOf W j) else .tryRight i j))))
    (hle : b.mv i j ≤ 3) :
    (lrRow W b offL offR i j : List (Tr α))
      = if b.mv i j = 3 then [act "Etha" 0] else (rules v L W b q (.lr i j)).map (tr e) := by
  rw [lrRow, hp]
  dsimp only [rules]
  match b.mv i j, hle with
  | 0, _ | 1, _ | 2, _ | 3, _ => rfl
  | n + 4, hle => omega

theorem dlrRow_eq (v : Variant) (q : Params α) {offD offL offR : Nat}
    (hd : e (.tryDown i j) = offD + i * W + j) (hl : e (.tryLeft i j) = offL + i * W + j)
    (hr : e (.tryRight i j) = offR + i * W + j) :
    (dlrRow W b offD offL offR i j : List (Tr α)) = (rules v L W b q (.free i j)).map (tr e) := by
  rw [dlrRow, ← hd, ← hl, ← hr]
  dsimp only [rules]
  generalize b.mv i j = m
  match m with
  | 0 | 1 | 2 | _ + 3 => rfl

end

end Builders

section Games
variable {α : Type} [Sub α] [OfNat α 0] [OfNat α 1] {L W i j : Nat} {b : Board}

/-- the row builders of a variant, in the order of `ctors` -/
def rows (v : Variant) (L W : Nat) (b : Board) (q : Params α) : List (Nat → Nat → List (Tr α)) :=
  let n := L * W
  let lose := enc v L W .lose
  let win := enc v L W .win
  match v with
  | .A => [p2Row W b (1 * n) (2 * n), downRow L W (3 * n) (some win), lrRow W b (3 * n) (3 * n),
           tileRow W q.pTile b 0 lose]
  | .B => [p2Row W b (1 * n) (2 * n), downRow L W (4 * n) none, lrRow W b (5 * n) (6 * n),
           tileRow W q.pTile b 0 lose, rdRow L W q.pRobot (3 * n) win, rlRow W q.pRobot (3 * n),
           rrRow W q.pRobot (3 * n)]
  | .C => [p2Row W b (8 * n) (9 * n), downRow L W (5 * n) none, lrRow W b (6 * n) (7 * n),
           dlrRow W b (5 * n) (6 * n) (7 * n), tileRow W q.pTile b 0 lose,
           rdRow L W q.pRobot (4 * n) win, rlRow W q.pRobot (4 * n), rrRow W q.pRobot (4 * n),
           lightRow W q.pLight (1 * n) (3 * n), lightRow W q.pLight (2 * n) (3 * n)]

theorem genGame_tl {v : Variant} (hmv : ∀ i < L, ∀ j < W, b.mv i j ≤ 3) (q : Params α) :
    (genGame v L W b q).tl = ((rows v L W b q).map (grid L W)).flatten
      ++ [[pr 1 (enc v L W .lose)], [pr 1 (enc v L W .win)]] := by
  cases v <;>
    simp only [genGame, gameA, gameB, gameC, rows, playerOneLeftRight_eq (α := α) hmv,
      playerOneDownLeftRight_eq (α := α) hmv, playerTwo_eq, playerOneDown_eq, probLightBreak_eq,
      probTileBreak_eq, probRobotDownBreak_eq, probRobotLeftBreak_eq, probRobotRightBreak_eq,
      enc_A_lose, enc_A_win, enc_B_lose, enc_B_win, enc_C_lose, enc_C_win, Nat.mul_comm (L * W),
      List.map_cons, List.map_nil, List.flatten_cons, List.flatten_nil, List.append_assoc,
      List.append_nil]

theorem genGame_finals (v : Variant) (L W : Nat) (b : Board) (q : Params α) :
    (genGame v L W b q).finals = [enc v L W .win] := by
  cases v <;> dsimp only [genGame, gameA, gameB, gameC] <;>
    simp only [enc_A_win, enc_B_win, enc_C_win, Nat.mul_comm (L * W)]

/-- The generator's row for situation `s`: the image of the rules' row under the numbering.  On a
down-only tile the rules give `lr` no move (Yellow is never offered there, the situation is
unreachable); the generator writes a dummy `Etha` move instead. -/
def genRow (v : Variant) (L W : Nat) (b : Board) (q : Params α) : RState → List (Tr α)
  | .lr i j =>
    if b.mv i j = 3 then [act "Etha" 0] else (rules v L W b q (.lr i j)).map (tr (enc v L W))
  | s => (rules v L W b q s).map (tr (enc v L W))

theorem genRow_valid {v : Variant} (q : Params α) {s : RState} (hs : Valid v L W b s) :
    genRow v L W b q s = (rules v L W b q s).map (tr (enc v L W)) := by
  cases s with
  | lr i j => exact if_neg hs.2.2
  | _ => rfl

theorem map_grid_cons {β γ : Type} {F : β → γ} {f : Nat → Nat → γ} {c : Nat → Nat → β}
    {fs : List (Nat → Nat → γ)} {cs : List (Nat → Nat → β)}
    (h : ∀ i < L, ∀ j < W, f i j = F (c i j))
    (t : fs.map (grid L W) = cs.map fun c => (grid L W c).map F) :
    (f :: fs).map (grid L W) = (c :: cs).map fun c => (grid L W c).map F := by
  rw [List.map_cons, List.map_cons, t, map_grid, grid_congr h]

/-- The table of the transition lists: group by group in the order of `ctors`, the builder writes at
every tile the row of the situation that stands there.  Each builder lemma is instantiated at the
numbering `enc`; its hypotheses about the offsets hold by `rfl`. -/
theorem rows_table (hb : BoardOK L W b) (q : Params α) : ∀ v : Variant,
    (rows v L W b q).map (grid L W)
      = (ctors v).map fun c => (grid L W c).map (genRow v L W b q) := by
  have hW := hb.W_pos
  have hmv := hb.mv_le
  have hn : 0 < L * W := Nat.mul_pos hb.L_pos hW  -- for `5 * (L * W) ≠ 6 * (L * W)` below
  -- `tileRow` is called with offset `0`
  have z : ∀ i j : Nat, i * W + j = 0 + i * W + j := by intro i j; rw [Nat.zero_add]
  intro v
  match v with
  | .A => exact
    map_grid_cons (fun i _ j _ => p2Row_eq _ rfl rfl) <|
    map_grid_cons (fun i _ j _ => downRow_some_eq _ rfl rfl) <|
    map_grid_cons (fun i hi j hj => lrRow_eq _ .A q (lrPair_wrap hW hj _ _) (hmv i hi j hj)) <|
    map_grid_cons (fun i _ j _ => tileRow_eq _ rfl (z ..)) rfl
  | .B => exact
    map_grid_cons (fun i _ j _ => p2Row_eq _ rfl rfl) <|
    map_grid_cons (fun i _ j _ => downRow_none_eq _ rfl) <|
    map_grid_cons (fun i hi j hj => lrRow_eq _ .B q (lrPair_ne (by omega) i j) (hmv i hi j hj)) <|
    map_grid_cons (fun i _ j _ => tileRow_eq _ rfl (z ..)) <|
    map_grid_cons (fun i _ j _ => rdRow_eq _ rfl rfl rfl) <|
    map_grid_cons (fun i _ j hj => rlRow_eq _ hW hj fun _ => rfl) <|
    map_grid_cons (fun i _ j hj => rrRow_eq _ hW hj fun _ => rfl) rfl
  | .C => exact
    map_grid_cons (fun i _ j _ => p2Row_eq _ rfl rfl) <|
    map_grid_cons (fun i _ j _ => downRow_none_eq _ rfl) <|
    map_grid_cons (fun i hi j hj => lrRow_eq _ .C q (lrPair_ne (by omega) i j) (hmv i hi j hj)) <|
    map_grid_cons (fun i _ j _ => dlrRow_eq _ .C q rfl rfl rfl) <|
    map_grid_cons (fun i _ j _ => tileRow_eq _ rfl (z ..)) <|
    map_grid_cons (fun i _ j _ => rdRow_eq _ rfl rfl rfl) <|
    map_grid_cons (fun i _ j hj => rlRow_eq _ hW hj fun _ => rfl) <|
    map_grid_cons (fun i _ j hj => rrRow_eq _ hW hj fun _ => rfl) <|
    map_grid_cons (fun i _ j _ => lightRow_eq _ rfl rfl) <|
    map_grid_cons (fun i _ j _ => lightRow_eq _ rfl rfl) rfl

theorem tl_eq {v : Variant} (hb : BoardOK L W b) (q : Params α) :
    (genGame v L W b q).tl = (states v L W).map (genRow v L W b q) := by
  rw [genGame_tl hb.mv_le, rows_table hb q v, states, List.map_append, List.map_flatten,
    List.map_map]
  rfl

theorem genGame_tl_length {v : Variant} (hb : BoardOK L W b) (q : Params α) :
    (genGame v L W b q).tl.length = nGroups v * (L * W) + 2 := by
  rw [tl_eq hb q, List.length_map, states_length]

theorem tl_bisim {v : Variant} (hb : BoardOK L W b) (q : Params α) {s : RState}
    (hs : Valid v L W b s) :
    (genGame v L W b q).tl.getD (enc v L W s) [] = (rules v L W b q s).map (tr (enc v L W)) := by
  rw [tl_eq hb q, getD_states_map _ _ hs, genRow_valid q hs]

theorem lose_win_rows {v : Variant} (hb : BoardOK L W b) (q : Params α) :
    (genGame v L W b q).tl.getD (enc v L W .lose) [] = [pr 1 (enc v L W .lose)] ∧
    (genGame v L W b q).tl.getD (enc v L W .win) [] = [pr 1 (enc v L W .win)] ∧
    (genGame v L W b q).rewards.getD (enc v L W .lose) 0 = 0 ∧
    (genGame v L W b q).rewards.getD (enc v L W .win) 0 = 0 :=
  ⟨tl_bisim hb q (s := .lose) trivial, tl_bisim hb q (s := .win) trivial,
    rewards_bisim hb q (s := .lose) trivial, rewards_bisim hb q (s := .win) trivial⟩

theorem valid_below {v : Variant} (hj : j < W) : Valid v L W b (below L i j) := by
  unfold below; split
  · exact ⟨‹_›, hj⟩
  · trivial

theorem rules_valid {v : Variant} (hW : 0 < W) (q : Params α) {s : RState}
    (hs : Valid v L W b s) : ∀ x ∈ rules v L W b q s, Valid v L W b x.tgt := by
  have hl : ∀ j, leftOf W j < W := fun j => Nat.mod_lt _ hW
  have hr : ∀ j, rightOf W j < W := fun j => Nat.mod_lt _ hW
  -- no case split on `v`: `rules` and `Valid` only test `v = .A` and `v = .C`, and splitting the
  -- `if`s of `rules` provides exactly these facts
  cases s <;> simp only [Valid] at hs <;> dsimp only [rules, a, c] <;> repeat' split
  -- one `Valid` goal per entry of the literal lists, each closed by `hs`, `hl`, `hr` and the fact
  -- about `v` that the `split` provided
  all_goals simp only [List.forall_mem_cons, List.not_mem_nil, false_imp_iff, implies_true,
    and_true, valid_below, hs]
  all_goals simp [Valid, *]

theorem rules_ne_nil {v : Variant} (hmv : ∀ i < L, ∀ j < W, b.mv i j ≤ 3) (q : Params α)
    {s : RState} (hs : Valid v L W b s) : rules v L W b q s ≠ [] := by
  cases s with
  | lr i j =>
    dsimp only [rules]
    match h : b.mv i j with
    | 0 | 1 | 2 => exact List.cons_ne_nil _ _
    | 3 => exact absurd h hs.2.2
    | n + 4 => exact absurd (h ▸ hmv i hs.1 j hs.2.1) (by omega)
  | _ =>
    -- every other branch of `rules` is a list literal with at least one entry
    dsimp only [rules]
    repeat' split
    all_goals exact List.cons_ne_nil _ _

theorem ctor_valid {v : Variant} {c : Nat → Nat → RState} (hc : c ∈ ctors v) (hi : i < L)
    (hj : j < W) :
    Valid v L W b (c i j) ∨ b.mv i j = 3 ∧ (c = .lr ∨ v = .C ∧ c = .lightY) := by
  -- `hc` becomes a disjunction over the 4, 7 or 10 entries of `ctors v` (a shorter one ends early)
  cases v <;> simp only [ctors, List.mem_cons, List.not_mem_nil, or_false] at hc <;>
    rcases hc with rfl | rfl | rfl | rfl | rfl | rfl | rfl | rfl | rfl | rfl <;>
    simp [Valid, hi, hj, Decidable.not_or_self]

/-- a row of a game with `N` states: not empty, every target a state -/
def RowOK {α : Type} (N : Nat) (row : List (Tr α)) : Prop := row ≠ [] ∧ ∀ t ∈ row, t.tgt < N

theorem tl_rows_ok {v : Variant} (hb : BoardOK L W b) (q : Params α) :
    ∀ row ∈ (genGame v L W b q).tl, RowOK (nGroups v * (L * W) + 2) row := by
  -- the targets of a valid situation are valid (`rules_valid`), so numbered in range (`enc_lt`); the
  -- two kinds of place in `states` that hold no valid situation (`ctor_valid`) are looked at directly
  have valid : ∀ {s}, Valid v L W b s → RowOK (nGroups v * (L * W) + 2) (genRow v L W b q s) := by
    intro s hs
    rw [genRow_valid q hs]
    refine ⟨fun h => rules_ne_nil hb.mv_le q hs (List.map_eq_nil_iff.1 h), fun t ht => ?_⟩
    obtain ⟨x, hx, rfl⟩ := List.mem_map.1 ht
    exact enc_lt (rules_valid hb.W_pos q hs x hx)
  intro row hrow
  rw [tl_eq hb q, List.mem_map] at hrow
  obtain ⟨s, hs, rfl⟩ := hrow
  rw [states, mem_gridGroups] at hs
  rcases hs with ⟨c, hc, i, hi, j, hj, rfl⟩ | hs
  · rcases ctor_valid (b := b) hc hi hj with hv | ⟨h3, rfl | ⟨rfl, rfl⟩⟩
    · exact valid hv
    · show RowOK _ (if _ then _ else _)
      rw [if_pos h3]
      exact ⟨List.cons_ne_nil _ _, List.forall_mem_singleton.2 (Nat.succ_pos _)⟩
    · -- to `free i j` and to `lr i j`, which is not valid here but has its place all the same
      exact ⟨List.cons_ne_nil _ _, List.forall_mem_cons.2 ⟨(Pos.tile_of_eq 3 rfl hi hj rfl).lt,
        List.forall_mem_singleton.2 (Pos.tile_of_eq 2 rfl hi hj rfl).lt⟩⟩
  · simp only [List.mem_cons, List.not_mem_nil, or_false] at hs
    rcases hs with rfl | rfl <;> exact valid trivial

/-- one row, one reward and one owner per state; a final state; final states and all targets
are states; no empty row: what `check_game` / `init_states` ask of a game, for a `GenGame`
(not `C01.WF`, which asks for distributions and not for final states) -/
structure WF (g : GenGame α) : Prop where
  tl_len : g.tl.length = g.owners.length
  rew_len : g.rewards.length = g.owners.length
  finals_ne : g.finals ≠ []
  finals_lt : ∀ f ∈ g.finals, f < g.owners.length
  rows : ∀ row ∈ g.tl, RowOK g.owners.length row

theorem genGame_wf {v : Variant} (hb : BoardOK L W b) (q : Params α) : WF (genGame v L W b q) where
  tl_len := by rw [genGame_tl_length hb, genGame_owners_length]
  rew_len := by rw [genGame_rewards_length hb, genGame_owners_length]
  finals_ne := by rw [genGame_finals]; exact List.cons_ne_nil _ _
  finals_lt := by
    intro f hf
    rw [genGame_finals, List.mem_singleton] at hf
    rw [hf, genGame_owners_length, enc_win_eq]; omega
  rows := by rw [genGame_owners_length]; exact tl_rows_ok hb q

/-- the two shapes of a chance row: `[1]`, or `[p, 1 - p]` with `p` one of the three break
probabilities -/
def ProbShape (q : Params α) (row : List (Tr α)) : Prop :=
  (∃ t, row = [pr 1 t]) ∨
  ∃ p t t', (p = q.pTile ∨ p = q.pRobot ∨ p = q.pLight) ∧ row = [pr p t, pr (1 - p) t']

theorem genRow_shape (v : Variant) (L W : Nat) (b : Board) (q : Params α) {s : RState}
    (h : owner s = .prob) : ProbShape q (genRow v L W b q s) := by
  cases s with
  | land i j =>
    show ProbShape q (List.map _ (if b.ls i j = 1 then _ else _))
    split
    · exact Or.inr ⟨_, _, _, Or.inl rfl, rfl⟩
    · exact Or.inl ⟨_, rfl⟩
  | tryDown | tryLeft | tryRight => exact Or.inr ⟨_, _, _, Or.inr (Or.inl rfl), rfl⟩
  | lightG | lightY => exact Or.inr ⟨_, _, _, Or.inr (Or.inr rfl), rfl⟩
  | lose | win => exact Or.inl ⟨_, rfl⟩
  | light | down | lr | free => cases h

theorem prob_rows_shape {v : Variant} (hb : BoardOK L W b) (q : Params α)
    (s : Nat) (hs : s < nGroups v * (L * W) + 2)
    (ho : (genGame v L W b q).owners.getD s .prob = .prob) :
    ProbShape q ((genGame v L W b q).tl.getD s []) := by
  rw [← states_length] at hs
  rw [owners_eq, getD_map_of_lt owner _ _ .lose _ hs] at ho
  rw [tl_eq hb q, getD_map_of_lt _ _ _ .lose _ hs]
  exact genRow_shape v L W b q ho

end Games

theorem WF.validates {α : Type} [LT α] [DecidableLT α] [OfNat α 0] {g : GenGame α} (h : WF g)
    (ofNat : Nat → α) (hnn : ∀ n, ¬ ofNat n < 0) :
    checkGame (g.toGame ofNat) = .ok () ∧ initStates (g.toGame ofNat) = .ok () := by
  have hn : g.owners.length ≠ 0 := by
    cases hf : g.finals with
    | nil => exact absurd hf h.finals_ne
    | cons f _ => exact Nat.ne_of_gt (Nat.zero_lt_of_lt (h.finals_lt f (by simp [hf])))
  unfold GenGame.toGame
  refine ⟨checkGame_eq_ok.mpr ⟨?_, ?_, ?_, ?_, h.finals_ne, ?_⟩, initStates_eq_ok.mpr ?_⟩
  · simpa using h.tl_len
  · simpa using h.rew_len
  · simpa [h.rew_len] using hn
  · intro x hx
    simp only [List.mem_toArray, List.mem_map] at hx
    obtain ⟨n, -, rfl⟩ := hx
    exact hnn n
  · simpa using h.finals_lt
  · intro row hrow
    simpa [RowOK] using h.rows row (by simpa using hrow)

end CR.GridLemmas
