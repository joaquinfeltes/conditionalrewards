/-
Glue lemma about Lean's IEEE-754 `Float` model (`Init/Data/Float/Model`): the double obtained
from a natural number / non-negative integer is never `< 0`.

`Float.ofNat n` is `n * 10^0`, computed by the fast path (`UInt64.toFloat` times the table entry
`1.0`) or through `Float.Model.ofScientific`; both `pack` an unpacked float whose sign is `positive`,
`unpack ∘ pack` keeps a positive sign, and a value whose unpacked form has a positive sign (or is
NaN) compares `<` with no zero.  The proofs follow the clauses of `UnpackedFloat.unpack`, `mul`,
`ofScientific` and `Float.ofScientific` of Lean 4.33: after a change of toolchain re-read
`posU_unpack`, `posU_mul` and `posU_floatOfNat` first.  No Mathlib import.
-/
open Float.Model Float.Model.UnpackedFloat

namespace CR.GlueFloat

/-- sign is positive (NaN counts) -/
def PosU : UnpackedFloat → Prop
  | .infinity s => s = .positive
  | .notANumber => True
  | .zero s => s = .positive
  | .finite s _ _ _ => s = .positive

theorem unpackSign_packComponents {spec : Format} {sign exponent mantissa} :
    unpackSign (packComponents spec sign exponent mantissa) = sign.toBitVec := by
  ext i hi
  have : i = 0 := by omega
  subst this
  have h1 : ¬ (spec.mantissaBitsWithoutImplicit + spec.exponentBits
      < spec.mantissaBitsWithoutImplicit) := by omega
  simp [unpackSign, packComponents, BitVec.getLsbD_append, BitVec.getElem_append, h1]

theorem ofBitVec_toBitVec (s : Sign) : Sign.ofBitVec s.toBitVec = s := by
  cases s <;> simp [Sign.ofBitVec, Sign.toBitVec]

theorem posU_unpack {spec : Format} {b : BitVec spec.numBits}
    (h : unpackSign b = Sign.positive.toBitVec) : PosU (UnpackedFloat.unpack spec b) := by
  -- the five clauses of `unpack` (infinity, NaN, zero, subnormal, normal) take the sign from the sign bit
  unfold UnpackedFloat.unpack
  simp only [h, ofBitVec_toBitVec]
  split
  · split
    · rfl
    · trivial
  · split
    · split
      · rfl
      · rfl
    · rfl

theorem posU_pack (f : UnpackedFloat) (h : PosU f) : PosU (Float.Model.pack f).unpack := by
  show PosU (UnpackedFloat.unpack Format.binary64 (UnpackedFloat.pack Format.binary64 f))
  cases f with
  | notANumber => exact posU_unpack unpackSign_packComponents
  | infinity s => cases h; exact posU_unpack unpackSign_packComponents
  | zero s => cases h; exact posU_unpack unpackSign_packComponents
  | finite s m e hm =>
    cases h
    unfold UnpackedFloat.pack
    simp only []
    repeat' split
    all_goals exact posU_unpack unpackSign_packComponents

theorem posU_roundWithAccuracy (spec : Format) (m : Nat) (e : Int) (a : Accuracy) :
    PosU (roundWithAccuracy spec .positive m e a) := by
  unfold roundWithAccuracy
  simp only []
  split <;> simp [PosU]

theorem posU_unpackedOfNat (spec : Format) (n : Nat) : PosU (UnpackedFloat.ofNat spec n) := by
  unfold UnpackedFloat.ofNat UnpackedFloat.ofInt normalize
  split
  · rename_i h
    have : ¬ ((n : Int) < 0) := by omega
    simp [compare, compareOfLessAndEq, this] at h
    split at h <;> cases h
  · simp [PosU]
  · unfold round; exact posU_roundWithAccuracy ..

theorem posU_mul (spec : Format) (a b : UnpackedFloat) (ha : PosU a) (hb : PosU b) :
    PosU (UnpackedFloat.mul spec a b) := by
  -- the eleven clauses of `mul`, in its order: NaN, or a result whose sign is `s₁ * s₂`
  unfold UnpackedFloat.mul
  split
  · trivial
  · trivial
  · cases ha; cases hb; rfl
  · cases ha; cases hb; rfl
  · cases ha; cases hb; rfl
  · trivial
  · trivial
  · cases ha; cases hb; rfl
  · cases ha; cases hb; rfl
  · cases ha; cases hb; rfl
  · cases ha; cases hb; exact posU_roundWithAccuracy ..

theorem lt_zero_eq_false_of_posU (u : UnpackedFloat) (s : Sign) (h : PosU u) :
    u.lt (.zero s) = false := by
  cases u <;> (try cases h) <;> simp [UnpackedFloat.lt, UnpackedFloat.compare]

theorem zero_unpack : (0 : Float).toModel.unpack = .zero .positive := by rfl

/-- `0x3FF0000000000000` is `1.0`, the entry `10^0` of the table of the fast path -/
theorem one_posU : PosU (Float.ofBits 0x3FF0000000000000).toModel.unpack :=
  posU_pack _ (posU_unpack (by decide +kernel))

theorem not_lt_zero_of_posU (x : Float) (h : PosU x.toModel.unpack) : ¬ (x < 0) := by
  intro hlt
  -- `<` on `Float` is decided through the model, whose `<` is `UnpackedFloat.lt` of the unpacked forms
  have h1 : x.toModel.unpack.lt (0 : Float).toModel.unpack = true := by
    have h2 : x.toModel < (0 : Float).toModel := of_decide_eq_true hlt
    exact h2
  rw [zero_unpack, lt_zero_eq_false_of_posU _ _ h] at h1
  cases h1

theorem posU_ofScientific_nonneg (spec : Format) (n : Nat) (e : Int) (he : 0 ≤ e) :
    PosU (UnpackedFloat.ofScientific spec n e) := by
  unfold UnpackedFloat.ofScientific
  by_cases h1 : n = 0
  · rw [dif_pos h1]; trivial
  rw [dif_neg h1]
  by_cases h2 : e > 2 ^ spec.exponentBits
  · rw [if_pos h2]; trivial
  rw [if_neg h2]
  by_cases h3 : e < -((2 ^ spec.exponentBits : Int) + n.log2)
  · rw [if_pos h3]; trivial
  rw [if_neg h3, if_pos he]
  exact posU_mul _ _ _ rfl rfl

theorem posU_floatOfNat (n : Nat) : PosU (Float.ofNat n).toModel.unpack := by
  unfold Float.ofNat OfScientific.ofScientific instOfScientificFloat Float.ofScientific
  simp only []
  split
  · simp only [Bool.false_eq_true, if_false]
    exact posU_pack _ (posU_mul _ _ _ (posU_pack _ (posU_unpackedOfNat _ _)) one_posU)
  · simp only [Bool.false_eq_true, if_false]
    exact posU_pack _ (posU_ofScientific_nonneg _ n _ (Int.natCast_nonneg 0))

theorem ofNat_not_lt_zero (n : Nat) : ¬ (Float.ofNat n < 0) :=
  not_lt_zero_of_posU _ (posU_floatOfNat n)

theorem ofInt_not_lt_zero (i : Int) (h : 0 ≤ i) : ¬ (Float.ofInt i < 0) := by
  cases i with
  | ofNat n => exact ofNat_not_lt_zero n
  | negSucc n => exact absurd h (by simp)

end CR.GlueFloat
