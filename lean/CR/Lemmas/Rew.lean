/-
The reward phase of a successful `solve`, on top of `CR/Lemmas/RewStep.lean`.  Everything about the
reported vectors goes through `solve_run`: they satisfy every sweep invariant of the initial
vectors and, if the loop ran, are the outcome of a last sweep with reported change at most the
threshold (for `er` alone: `solve_er_inv`).  Also: conditioning produces `NodesWF` lists, the
rounding function of the `Rat` instance is monotone, the concrete data of the non-vacuity examples
of C02 / C14.
-/
import CR.Lemmas.RewStep
import CR.Props.C01
import CR.Lemmas.Prune
import CR.Lemmas.Runs

namespace CR.Rew

open CR CR.VI

variable {K : Type} [Field K] [LinearOrder K] [IsStrictOrderedRing K]

section Run
variable {rnd : K → Int} {thr : K} {fuel : Nat} {prune : Bool} {g : Game K} {out : SolveOut K}

omit [IsStrictOrderedRing K] in
/-- `check_game` guarantees non-negative state rewards and one row per state -/
theorem solve_checked (H : solve rnd thr fuel prune g = .ok out) :
    (∀ j, 0 ≤ g.rewards.getD j 0) ∧ Shape g := by
  obtain ⟨ro, hro, _⟩ := solve_eq_ok.mp H
  obtain ⟨htl, _, _, hnn, _⟩ := checkGame_eq_ok.mp (solveReach_eq_ok.mp hro).1
  exact ⟨getD_forall (0 ≤ ·) le_rfl fun j hj => not_lt.mp ((forall_mem_iff_getD 0).mp hnn j hj), htl⟩

theorem init_sized (H : solve rnd thr fuel prune g = .ok out) :
    Sized g.owners.size { er := g.rewards, ermr := g.rewards, pmr := out.probs } := by
  obtain ⟨ro, hro, _, _, _, _, hprobs, _⟩ := solve_eq_ok.mp H
  have h1 := (checkGame_eq_ok.mp (solveReach_eq_ok.mp hro).1).2.1
  have h2 := CR.C01.reach_size hro
  exact ⟨h1, h1, by rw [hprobs]; exact h2⟩

/-- the handle on the reward phase of an `.ok` run: every sweep invariant `P` of the initial
vectors holds for the reported vectors; if the loop ran (`thr < 1`: it starts with `diff = 1`), these
are the outcome of a last sweep, from vectors satisfying `P`, with reported `diff` at most `thr` -/
theorem solve_run (H : solve rnd thr fuel prune g = .ok out) (P : RewVecs K → Prop)
    (h0 : P { er := g.rewards, ermr := g.rewards, pmr := out.probs })
    (hP : ∀ x y d, P x →
      sweepRew rnd g.owners g.rewards out.nodes out.probs x = .ok (y, d) → P y) :
    P { er := out.rewards, ermr := out.rewMinReach, pmr := out.probMinRew } ∧
    (thr < 1 → ∃ (v : RewVecs K) (d : K), P v ∧
      sweepRew rnd g.owners g.rewards out.nodes out.probs v =
        .ok ({ er := out.rewards, ermr := out.rewMinReach, pmr := out.probMinRew }, d) ∧
      d ≤ thr) := by
  obtain ⟨ro, _, _, hvi, _, _, hprobs, _⟩ := solve_eq_ok.mp H
  rw [← hprobs] at hvi
  exact viRew_spec P hP thr fuel 1 _ 0 _ _ h0 hvi

theorem solve_sized (H : solve rnd thr fuel prune g = .ok out) :
    Sized g.owners.size { er := out.rewards, ermr := out.rewMinReach, pmr := out.probMinRew } :=
  (solve_run H (Sized g.owners.size) (init_sized H) (fun _ _ _ hx h => sweepRew_sized hx h)).1

theorem sized_of_last_sweep (H : solve rnd thr fuel prune g = .ok out) {v : RewVecs K} {d : K}
    (hsw : sweepRew rnd g.owners g.rewards out.nodes out.probs v =
      .ok ({ er := out.rewards, ermr := out.rewMinReach, pmr := out.probMinRew }, d)) :
    Sized g.owners.size v :=
  .of_vec fun c => (sweepRew_size c hsw).symm.trans ((solve_sized H).vec c)

theorem solve_last_sweep (H : solve rnd thr fuel prune g = .ok out) (hthr : thr < 1) :
    ∃ (v : RewVecs K) (d : K), Sized g.owners.size v ∧
      sweepRew rnd g.owners g.rewards out.nodes out.probs v =
        .ok ({ er := out.rewards, ermr := out.rewMinReach, pmr := out.probMinRew }, d) ∧
      d ≤ thr :=
  (solve_run H (Sized g.owners.size) (init_sized H) fun _ _ _ hx h => sweepRew_sized hx h).2 hthr

theorem solve_thr_zero_sweep (H : solve rnd thr fuel prune g = .ok out) (hthr : thr = 0) :
    ∃ v : RewVecs K, sweepRew rnd g.owners g.rewards out.nodes out.probs v =
      .ok ({ er := out.rewards, ermr := out.rewMinReach, pmr := out.probMinRew }, 0) := by
  subst hthr
  obtain ⟨v, d, _, hsw, hd⟩ := solve_last_sweep H zero_lt_one
  obtain rfl : d = 0 := le_antisymm hd (sweepRew_diff_nonneg hsw)
  exact ⟨v, hsw⟩

theorem solve_zero_fixed (H : solve rnd thr fuel prune g = .ok out) {v : RewVecs K}
    (hsw : sweepRew rnd g.owners g.rewards out.nodes out.probs v =
      .ok ({ er := out.rewards, ermr := out.rewMinReach, pmr := out.probMinRew }, 0))
    (s : Nat) (hs : s < g.owners.size) :
    stepRew rnd g.owners g.rewards out.nodes out.probs
        { er := out.rewards, ermr := out.rewMinReach, pmr := out.probMinRew } s =
      .ok (tripleAt { er := out.rewards, ermr := out.rewMinReach, pmr := out.probMinRew } s) :=
  sweepRew_zero_fixed (sized_of_last_sweep H hsw) hsw s hs

/-- on `er` the reward phase is Gauss–Seidel iteration of `Brew` from `g.rewards`: what holds of
`g.rewards` and survives the writes `x[s] := Brew x s` holds of the reported rewards -/
theorem solve_er_inv (H : solve rnd thr fuel prune g = .ok out) (P : Array K → Prop)
    (h0 : P g.rewards)
    (hstep : ∀ x, ∀ s < g.owners.size, P x →
      P (x.setIfInBounds s (Brew g.owners g.rewards out.nodes x s))) : P out.rewards :=
  (solve_run H (fun v => P v.er) h0 fun x y d hx h =>
    sweepRewFrom_er_inv P _ (fun x s hs => hstep x s (List.mem_range.mp hs)) (x, 0) (y, d) hx h).1

/-- the `er` vector stays non-negative (state rewards are non-negative by `check_game`; `p ≥ 0`
on the conditioned rows of the probabilistic states) -/
theorem solve_er_nonneg (H : solve rnd thr fuel prune g = .ok out)
    (hp : ∀ s < g.owners.size, RowNonneg g.owners out.nodes s) : ∀ j, 0 ≤ out.rewards.getD j 0 :=
  solve_er_inv H (fun x => ∀ j, 0 ≤ x.getD j 0) (solve_checked H).1 fun x s hs hx =>
    getD_set_ind (fun _ a => 0 ≤ a) hx fun _ =>
      Brew_nonneg (hp s hs) ((solve_checked H).1 s) x fun _ _ => hx _

end Run

theorem nodesWF_of_condition {prune : Bool} {g : Game K} (hrows : ProbRowsOK g)
    {strat : Array Strat} {reach : Array K} {nodes : Array (List (Tr K))}
    (h : condition prune g strat reach = .ok nodes) : NodesWF g.owners nodes := by
  intro s hs ho
  obtain ⟨hpos, hsum⟩ := hrows s hs ho
  cases prune with
  | false =>
    rw [condition_false_eq] at h
    injection h with h
    right
    rw [← h, pruneReachability_getD, ho]
    exact ⟨fun t ht => le_of_lt (hpos t ht), hsum⟩
  | true =>
    rcases condition_row_cases h s with hrow | ⟨hnil, _⟩
    · rw [hrow, condRow_prob ho]
      by_cases hlive : (g.tl.getD s []).filter (fun t => !dead reach t) = []
      · left
        rw [condProb_field reach hsum, hlive]; rfl
      · exact .inr ⟨fun t ht => le_of_lt (condProb_pos_of_pos reach hpos t ht),
          condProb_sum_one reach hpos hsum hlive⟩
    · left; exact hnil

/-- the two candidates `f`, `f + 1` for rounding `q`, where `f = ⌊q⌋`; `d` is `1/2` (as a
variable `linarith` has no denominators to clear) -/
theorem near_floor {q f d : Rat} (hd : d + d = 1) (h1 : f ≤ q) (h2 : q < f + 1) :
    (q - f ≤ d → f - d ≤ q ∧ q ≤ f + d) ∧
    (d ≤ q - f → f + 1 - d ≤ q ∧ q ≤ f + 1 + d) :=
  ⟨fun h => ⟨by linarith, by linarith⟩, fun h => ⟨by linarith, by linarith⟩⟩

theorem roundHalfEven_near (q : Rat) :
    ((roundHalfEven q : Int) : Rat) - 1/2 ≤ q ∧ q ≤ ((roundHalfEven q : Int) : Rat) + 1/2 := by
  obtain ⟨lo, hi⟩ := near_floor (d := 1/2) (by norm_num) (Rat.floor_le q)
    (by exact_mod_cast Rat.lt_floor_add_one q)
  unfold roundHalfEven
  simp only []
  split_ifs with ha hb hc
  · push_cast; exact hi ha.le
  · exact lo hb.le
  -- a tie is within `1/2` of both neighbours
  · exact lo (not_lt.mp ha)
  · push_cast; exact hi (not_lt.mp hb)

theorem roundHalfEven_mono {x y : Rat} (h : x ≤ y) : roundHalfEven x ≤ roundHalfEven y := by
  by_contra hlt
  have hlt : roundHalfEven y + 1 ≤ roundHalfEven x := by omega
  have hx := (roundHalfEven_near x).1
  have hy := (roundHalfEven_near y).2
  have hc : ((roundHalfEven y : Int) : Rat) + 1 ≤ ((roundHalfEven x : Int) : Rat) := by
    exact_mod_cast hlt
  have hxy : x = y := le_antisymm h (by linarith)
  subst hxy
  omega

/-- Python's `round(x, digits)` on rationals (scaled integer) is monotone -/
theorem roundRat_mono (d : Nat) (x y : Rat) (h : x ≤ y) : roundRat d x ≤ roundRat d y := by
  unfold roundRat
  apply roundHalfEven_mono
  exact mul_le_mul_of_nonneg_right h (by positivity)

namespace Examples
open CR.Examples

/-- the conditioned lists of the 7-state game `g7` (pruning on): states 2, 4, 6 are emptied -/
def g7nodes : Array (List (Tr Rat)) :=
  #[[tr "alfa" 0 1], [tr "" 1 3], [], [tr "gamma" 0 5], [], [tr "" 1 5], []]

/-- the reported vectors of `solve (roundRat 6) thr 1000 true g7` (the loop runs: 3 sweeps) -/
def g7vecs : RewVecs Rat :=
  { er := #[2, 2, 0, 2, 0, 0, 0], ermr := #[2, 2, 0, 2, 0, 0, 0], pmr := #[1, 1, 0, 1, 0, 1, 0] }

/-- its reported reachability probabilities -/
def g7probs : Array Rat := #[3/4, 3/4, 1/2, 1, 0, 1, 0]

/-- the run, field by field -/
theorem g7_run : ∃ out, solve (roundRat 6) thr 1000 true g7 = .ok out ∧
    out.rewards = g7vecs.er ∧ out.rewMinReach = g7vecs.ermr ∧ out.probMinRew = g7vecs.pmr ∧
    out.itRew = 3 ∧ out.probs = g7probs ∧ out.nodes = g7nodes ∧
    out.finalStrat = #[some ["alfa"], none, none, some ["gamma"], none, none, none] :=
  ⟨_, g7_solve_true, rfl, rfl, rfl, rfl, rfl, rfl, rfl⟩

/-- the reported vectors are reproduced by one more sweep, with change 0 -/
theorem g7_sweep :
    sweepRew (roundRat 6) g7.owners g7.rewards g7nodes g7probs g7vecs = .ok (g7vecs, 0) := by
  decide +kernel

/-- the conditioned lists of the 6-state game `g6` (pruning on); state 1 is Player 2's -/
def g6nodes : Array (List (Tr Rat)) :=
  #[[tr "a" 0 1, tr "b" 0 2, tr "c" 0 3], [tr "x" 0 4, tr "y" 0 2], [tr "" 1 4], [tr "" 1 4],
    [tr "" 1 4], []]

/-- the reported vectors of `solve (roundRat 6) thr 1000 true g6` -/
def g6vecs : RewVecs Rat :=
  { er := #[1, 0, 0, 1, 0, 0], ermr := #[1, 0, 0, 1, 0, 0], pmr := #[1, 1, 1, 1, 1, 0] }

def g6probs : Array Rat := #[1/2, 1/2, 1/2, 1/2, 1, 0]

/-- `NodesWF` holds for the conditioned lists `g7nodes` of the 7-state game -/
theorem g7_wf : NodesWF g7.owners g7nodes := by
  unfold NodesWF; decide +kernel

end Examples

end CR.Rew
