/-
The base layer: the few facts about arrays and `Except` that the model's definitions call for, and
for each stage of the pipeline (`checkGame`, `initStates`, `solveReach`, `condition`, `solve`) what
an outcome of that stage says, stated once, for any number type.
-/
import CR.Model.Solver

namespace CR

/-! Outcomes of the pipeline on concrete games are compared by kernel evaluation (`decide +kernel`) -/
deriving instance DecidableEq for Tr
deriving instance DecidableEq for Except
deriving instance DecidableEq for RewVecs
deriving instance DecidableEq for ReachOut
deriving instance DecidableEq for SolveOut

/-! ### arrays, and two counted loops -/

section Arr
variable {γ : Type}

theorem getD_setIfInBounds (a : Array γ) (i j : Nat) (v d : γ) :
    (a.setIfInBounds i v).getD j d = if i = j ∧ i < a.size then v else a.getD j d := by
  simp only [Array.getD_eq_getD_getElem?, Array.getElem?_setIfInBounds]
  by_cases h : i = j
  · subst h
    by_cases h2 : i < a.size <;> simp [h2]
  · simp [h]

theorem getD_set_self {a : Array γ} {i : Nat} (v d : γ) (h : i < a.size) :
    (a.setIfInBounds i v).getD i d = v := by
  rw [getD_setIfInBounds, if_pos ⟨rfl, h⟩]

theorem getD_set_ne {a : Array γ} {i j : Nat} (v d : γ) (h : i ≠ j) :
    (a.setIfInBounds i v).getD j d = a.getD j d := by
  rw [getD_setIfInBounds, if_neg fun c => h c.1]

/-- a property of all entries survives a write if the written value has it (at an index in
range; otherwise nothing is written) -/
theorem getD_set_ind {a : Array γ} {i : Nat} {v d : γ} (P : Nat → γ → Prop)
    (ha : ∀ j, P j (a.getD j d)) (hv : i < a.size → P i v) (j : Nat) :
    P j ((a.setIfInBounds i v).getD j d) := by
  rw [getD_setIfInBounds]
  by_cases hc : i = j ∧ i < a.size
  · rw [if_pos hc]; exact hc.1 ▸ hv hc.2
  · rw [if_neg hc]; exact ha j

theorem getD_of_size_le (a : Array γ) (j : Nat) (d : γ) (h : a.size ≤ j) : a.getD j d = d :=
  dif_neg (Nat.not_lt.mpr h)

/-- `getD` beyond the size reads the default: what holds of the default and of every entry holds
of `getD` at every index -/
theorem getD_forall {a : Array γ} {d : γ} (P : γ → Prop) (hd : P d)
    (h : ∀ s < a.size, P (a.getD s d)) (j : Nat) : P (a.getD j d) := by
  by_cases hj : j < a.size
  · exact h j hj
  · rw [getD_of_size_le _ _ _ (Nat.le_of_not_lt hj)]; exact hd

/-- the same for a relation between the entries of two arrays of one size -/
theorem getD_forall₂ {a b : Array γ} {d : γ} {n : Nat} (R : γ → γ → Prop) (hd : R d d)
    (ha : a.size = n) (hb : b.size = n) (h : ∀ s < n, R (a.getD s d) (b.getD s d)) (j : Nat) :
    R (a.getD j d) (b.getD j d) := by
  by_cases hj : j < n
  · exact h j hj
  · rw [getD_of_size_le _ _ _ (ha ▸ Nat.le_of_not_lt hj),
      getD_of_size_le _ _ _ (hb ▸ Nat.le_of_not_lt hj)]
    exact hd

theorem forall_mem_iff_getD {a : Array γ} (d : γ) {P : γ → Prop} :
    (∀ x ∈ a, P x) ↔ ∀ i, i < a.size → P (a.getD i d) := by
  constructor
  · intro h i hi
    rw [← Array.getElem_eq_getD (h := hi)]
    exact h _ (Array.getElem_mem hi)
  · intro h x hx
    obtain ⟨i, hi, rfl⟩ := Array.mem_iff_getElem.mp hx
    rw [Array.getElem_eq_getD d]
    exact h i hi

theorem getD_mem_of_lt (l : List γ) (x : Nat) (d : γ) (h : x < l.length) : l.getD x d ∈ l := by
  rw [← List.getElem_eq_getD (h := h)]; exact List.getElem_mem h

theorem getD_map_range {β : Type} (f : Nat → β) (n s : Nat) (d : β) :
    ((Array.range n).map f).getD s d = if s < n then f s else d := by
  by_cases h : s < n <;> simp [Array.getD, h]

theorem getD_mapIdx {β : Type} (f : Nat → β → γ) (a : Array β) (s : Nat) (db : β) (d : γ)
    (hf : f s db = d) : (a.mapIdx f).getD s d = f s (a.getD s db) := by
  by_cases h : s < a.size <;> simp [Array.getD, h, hf]

theorem array_ext_getD (d : γ) {a b : Array γ} (hsz : a.size = b.size)
    (h : ∀ i, i < a.size → a.getD i d = b.getD i d) : a = b := by
  apply Array.ext hsz
  intro i h1 h2
  rw [Array.getElem_eq_getD d, Array.getElem_eq_getD d]
  exact h i h1

theorem setIfInBounds_getD_self (a : Array γ) (s : Nat) (d : γ) :
    a.setIfInBounds s (a.getD s d) = a :=
  array_ext_getD d Array.size_setIfInBounds fun i _ => by
    rw [getD_setIfInBounds]
    split
    · next h => rw [h.1]
    · rfl

theorem lt_size_of_mem_getD {a : Array (List γ)} {t : γ} {u : Nat} (ht : t ∈ a.getD u []) :
    u < a.size :=
  Nat.lt_of_not_le fun h => by rw [getD_of_size_le _ _ _ h] at ht; cases ht

/-- a state with an owner other than the default is a state of the game -/
theorem owner_lt_size {owners : Array Owner} {s : Nat} (h : owners.getD s .prob ≠ .prob) :
    s < owners.size :=
  Nat.lt_of_not_le fun hs => h (getD_of_size_le _ _ _ hs)

/-- an invariant indexed by the number of steps done holds at the end of a counted loop -/
theorem foldl_range_inv {σ : Type} (f : σ → Nat → σ) (P : Nat → σ → Prop) (n : Nat) (init : σ)
    (h0 : P 0 init) (hs : ∀ k x, k < n → P k x → P (k + 1) (f x k)) :
    P n ((List.range n).foldl f init) := by
  have : ∀ m, m ≤ n → P m ((List.range m).foldl f init) := by
    intro m
    induction m with
    | zero => intro _; exact h0
    | succ m ih =>
      intro hm
      rw [List.range_succ, List.foldl_append]
      exact hs m _ hm (ih (Nat.le_of_succ_le hm))
  exact this n (Nat.le_refl n)

/-- a projection that no step changes is the same after the loop -/
theorem foldl_keeps {σ ι τ : Type} (f : σ → ι → σ) (p : σ → τ) (hf : ∀ x i, p (f x i) = p x)
    (l : List ι) (x : σ) : p (l.foldl f x) = p x := by
  induction l generalizing x with
  | nil => rfl
  | cons i l ih => rw [List.foldl_cons, ih, hf]

end Arr

/-! ### `Except`: a failed test, a sequenced step, `map`, `mapM` over `Array.range` -/

section Exc
variable {ε β γ : Type}

theorem ite_error_eq_ok {c : Prop} [Decidable c] {e : ε} {x : Except ε β} {v : β} :
    (if c then .error e else x) = .ok v ↔ ¬ c ∧ x = .ok v := by
  by_cases h : c
  · rw [if_pos h]; exact ⟨fun h' => (nomatch h'), fun h' => absurd h h'.1⟩
  · rw [if_neg h]; exact ⟨fun h' => ⟨h, h'⟩, fun h' => h'.2⟩

theorem bind_eq_ok {x : Except ε β} {f : β → Except ε γ} {v : γ} :
    x >>= f = .ok v ↔ ∃ a, x = .ok a ∧ f a = .ok v := by
  cases x with
  | error e => exact ⟨fun h => (nomatch h), fun ⟨_, h, _⟩ => (nomatch h)⟩
  | ok a => exact ⟨fun h => ⟨a, rfl, h⟩, fun ⟨_, h, h'⟩ => by cases h; exact h'⟩

theorem bind_eq_error {x : Except ε β} {f : β → Except ε γ} {e : ε} :
    x >>= f = .error e ↔ x = .error e ∨ ∃ a, x = .ok a ∧ f a = .error e := by
  cases x with
  | error e' =>
    show Except.error e' = _ ↔ _
    exact ⟨fun h => .inl (by cases h; rfl), fun h => h.elim (fun h => by cases h; rfl)
      fun ⟨_, h, _⟩ => (nomatch h)⟩
  | ok a =>
    exact ⟨fun h => .inr ⟨a, rfl, h⟩, fun h => h.elim (fun h => (nomatch h))
      fun ⟨_, h, h'⟩ => by cases h; exact h'⟩

theorem map_eq_ok {f : β → γ} {x : Except ε β} {v : γ} :
    x.map f = .ok v ↔ ∃ a, x = .ok a ∧ f a = v := by
  cases x with
  | error e => exact ⟨fun h => (nomatch h), fun ⟨_, h, _⟩ => (nomatch h)⟩
  | ok a => exact ⟨fun h => ⟨a, rfl, Except.ok.inj h⟩, fun ⟨_, h, h'⟩ => by cases h; rw [← h']; rfl⟩

theorem map_eq_error {f : β → γ} {x : Except ε β} {e : ε} : x.map f = .error e ↔ x = .error e := by
  cases x with
  | error e' => exact ⟨fun h => by cases h; rfl, fun h => by cases h; rfl⟩
  | ok a => exact ⟨fun h => (nomatch h), fun h => (nomatch h)⟩

/-- the form in which a fact about a run is evaluated by the kernel without writing the outcome down:
`decide +kernel` proves `r.toOption.map f = some x` for a decidable summary `f` of the outcome -/
theorem exists_ok_of_toOption_map {σ τ : Type} {r : Except ε σ} {f : σ → τ} {x : τ}
    (h : r.toOption.map f = some x) : ∃ o, r = .ok o ∧ f o = x := by
  cases r with
  | error e => cases h
  | ok o => exact ⟨o, rfl, by simpa [Except.toOption] using h⟩

/-- stated for `List.range' s n`, so that the induction on `n` can take off the head -/
theorem list_mapM_range'_eq_ok (f : Nat → Except ε γ) (d : γ) :
    ∀ (n s : Nat) (out : List γ), (List.range' s n).mapM f = .ok out ↔
      out.length = n ∧ ∀ k, k < n → f (s + k) = .ok (out.getD k d)
  | 0, s, out => by
    constructor
    · intro h; cases h; exact ⟨rfl, fun k hk => absurd hk (Nat.not_lt_zero k)⟩
    · rintro ⟨h, -⟩; rw [List.length_eq_zero_iff.mp h]; rfl
  | n + 1, s, out => by
    rw [List.range'_succ, List.mapM_cons, bind_eq_ok]
    simp only [bind_eq_ok, list_mapM_range'_eq_ok f d n (s + 1)]
    constructor
    · rintro ⟨b, hb, bs, ⟨hlen, hbs⟩, h⟩
      cases h
      refine ⟨congrArg (· + 1) hlen, fun k hk => ?_⟩
      cases k with
      | zero => exact hb
      | succ k =>
        rw [← Nat.add_assoc, Nat.add_right_comm]; exact hbs k (Nat.lt_of_succ_lt_succ hk)
    · rintro ⟨hlen, h⟩
      cases out with
      | nil => cases hlen
      | cons b bs =>
        refine ⟨b, h 0 (Nat.succ_pos n), bs, ⟨Nat.succ.inj hlen, fun k hk => ?_⟩, rfl⟩
        rw [Nat.add_right_comm]; exact h (k + 1) (Nat.succ_lt_succ hk)

theorem list_mapM_range'_eq_error (f : Nat → Except ε γ) (e : ε) :
    ∀ (n s : Nat), (List.range' s n).mapM f = .error e ↔
      ∃ k, k < n ∧ (∀ j, j < k → ∃ y, f (s + j) = .ok y) ∧ f (s + k) = .error e
  | 0, s => ⟨fun h => (nomatch h), fun ⟨k, hk, _⟩ => absurd hk (Nat.not_lt_zero k)⟩
  | n + 1, s => by
    rw [List.range'_succ, List.mapM_cons, bind_eq_error]
    simp only [bind_eq_error, list_mapM_range'_eq_error f e n (s + 1)]
    constructor
    · rintro (h | ⟨b, hb, ⟨k, hk, hpre, herr⟩ | ⟨_, _, h⟩⟩)
      · exact ⟨0, Nat.succ_pos n, fun j hj => absurd hj (Nat.not_lt_zero j), h⟩
      · rw [Nat.add_right_comm] at herr
        refine ⟨k + 1, Nat.succ_lt_succ hk, fun j hj => ?_, herr⟩
        cases j with
        | zero => exact ⟨b, hb⟩
        | succ j =>
          rw [← Nat.add_assoc, Nat.add_right_comm]; exact hpre j (Nat.lt_of_succ_lt_succ hj)
      · cases h
    · rintro ⟨k, hk, hpre, herr⟩
      cases k with
      | zero => exact .inl herr
      | succ k =>
        obtain ⟨b, hb⟩ := hpre 0 (Nat.succ_pos k)
        refine .inr ⟨b, hb, .inl ⟨k, Nat.lt_of_succ_lt_succ hk, fun j hj => ?_, ?_⟩⟩
        · rw [Nat.add_right_comm]; exact hpre (j + 1) (Nat.succ_lt_succ hj)
        · rw [Nat.add_right_comm]; exact herr

theorem mapM_range_eq (f : Nat → Except ε γ) (n : Nat) :
    (Array.range n).mapM f = List.toArray <$> (List.range' 0 n).mapM f := by
  rw [Array.mapM_eq_mapM_toList, Array.toList_range, List.range_eq_range']

/-- `mapM` over `Array.range n` succeeds with `out` iff `out` holds the `n` results -/
theorem mapM_range_eq_ok (f : Nat → Except ε γ) (d : γ) {n : Nat} {out : Array γ} :
    (Array.range n).mapM f = .ok out ↔ out.size = n ∧ ∀ i, i < n → f i = .ok (out.getD i d) := by
  have := list_mapM_range'_eq_ok f d n 0 out.toList
  simp only [Nat.zero_add, List.getD_eq_getElem?_getD, Array.getElem?_toList,
    ← Array.getD_eq_getD_getElem?] at this
  rw [mapM_range_eq]
  refine Iff.trans ?_ this
  cases (List.range' 0 n).mapM f with
  | error e => exact ⟨fun h => (nomatch h), fun h => (nomatch h)⟩
  | ok l => exact ⟨fun h => by cases h; rfl, fun h => by cases h; rfl⟩

/-- `mapM` over `Array.range n` fails with the error of the first index at which `f` fails -/
theorem mapM_range_eq_error (f : Nat → Except ε γ) {n : Nat} {e : ε} :
    (Array.range n).mapM f = .error e ↔
      ∃ s, s < n ∧ (∀ j, j < s → ∃ y, f j = .ok y) ∧ f s = .error e := by
  have := list_mapM_range'_eq_error f e n 0
  simp only [Nat.zero_add] at this
  rw [mapM_range_eq]
  refine Iff.trans ?_ this
  cases (List.range' 0 n).mapM f with
  | error e => exact ⟨fun h => by cases h; rfl, fun h => by cases h; rfl⟩
  | ok l => exact ⟨fun h => (nomatch h), fun h => (nomatch h)⟩

end Exc

/-! ### `checkGame`, `initStates` -/

section Check
variable {α : Type} [LT α] [DecidableLT α] [OfNat α 0]

/-- `checkGame` as a plain cascade of tests -/
theorem checkGame_eq (g : Game α) :
    checkGame g =
      if g.tl.size ≠ g.owners.size then .error (.malformed "transition list length")
      else if g.rewards.size ≠ g.owners.size then .error (.malformed "reward list length")
      else if g.rewards.size = 0 then .error (.malformed "min of empty rewards")
      else if g.rewards.any (fun x => x < 0) = true then .error (.malformed "negative reward")
      else if g.finals.isEmpty = true then .error (.malformed "max of empty final states")
      else if g.finals.any (fun f => f ≥ g.owners.size) = true then
        .error (.malformed "final state out of range")
      else .ok () := by
  unfold checkGame anyNeg
  -- each test occurs once on either side: hence every rewrite twice
  by_cases h1 : g.tl.size ≠ g.owners.size
  · rw [if_pos h1, if_pos h1]; rfl
  rw [if_neg h1, if_neg h1]
  by_cases h2 : g.rewards.size ≠ g.owners.size
  · rw [if_pos h2, if_pos h2]; rfl
  rw [if_neg h2, if_neg h2]
  by_cases h3 : g.rewards.size = 0
  · rw [if_pos h3, if_pos h3]; rfl
  rw [if_neg h3, if_neg h3]
  cases g.rewards.any (fun x => decide (x < 0))
  case true => rfl
  cases g.finals.isEmpty
  case true => rfl
  cases g.finals.any (fun f => decide (f ≥ g.owners.size)) <;> rfl

theorem checkGame_eq_ok {g : Game α} :
    checkGame g = .ok () ↔
      g.tl.size = g.owners.size ∧ g.rewards.size = g.owners.size ∧ g.rewards.size ≠ 0 ∧
        (∀ x ∈ g.rewards, ¬ x < 0) ∧ g.finals ≠ [] ∧ ∀ f ∈ g.finals, f < g.owners.size := by
  rw [checkGame_eq]
  simp only [ite_error_eq_ok, ne_eq, Decidable.not_not, and_true, Array.any_eq_true',
    List.any_eq_true, List.isEmpty_iff, decide_eq_true_eq, not_exists, not_and, ge_iff_le,
    Nat.not_le]

end Check

section Init
variable {α : Type}

/-- a `for` loop that only raises `e` on the first element satisfying `cnd` -/
theorem forIn_check {β : Type} (cnd : β → Bool) (e : Err) : ∀ (l : List β),
    forIn (m := Except Err) l PUnit.unit (fun row _ =>
        if cnd row = true then do
          throw e
          pure (ForInStep.yield PUnit.unit)
        else pure (ForInStep.yield PUnit.unit))
      = if l.any cnd = true then .error e else .ok PUnit.unit
  | [] => rfl
  | x :: l => by
    rw [List.forIn_cons, List.any_cons]
    cases h : cnd x
    · simp only [Bool.false_eq_true, if_false, Bool.false_or]
      exact forIn_check cnd e l
    · rfl

theorem initStates_eq (g : Game α) :
    initStates g =
      if g.tl.any (fun row => row.any (fun t => t.tgt ≥ g.owners.size)) = true then
        .error (.malformed "next state out of range")
      else if g.tl.any (fun row => row.isEmpty) = true then
        .error (.malformed "missing transitions")
      else .ok () := by
  unfold initStates
  simp only [← Array.forIn_toList, forIn_check, Array.any_toList]
  cases g.tl.any (fun row => row.any (fun t => decide (t.tgt ≥ g.owners.size))) <;> rfl

theorem initStates_eq_ok {g : Game α} :
    initStates g = .ok () ↔ ∀ row ∈ g.tl, row ≠ [] ∧ ∀ t ∈ row, t.tgt < g.owners.size := by
  rw [initStates_eq]
  simp only [ite_error_eq_ok, and_true, Array.any_eq_true', List.any_eq_true, List.isEmpty_iff,
    decide_eq_true_eq, not_exists, not_and, ge_iff_le, Nat.not_le]
  exact ⟨fun h row hr => ⟨h.2 row hr, h.1 row hr⟩, fun h => ⟨fun row hr => (h row hr).2,
    fun row hr => (h row hr).1⟩⟩

end Init

/-! ### `solveReach` -/

section SolveReach
variable {α : Type} [Add α] [Sub α] [Mul α] [Neg α] [LT α] [DecidableLT α] [BEq α] [OfNat α 0]
  [OfNat α 1] {rnd : α → Int} {thr : α} {fuel : Nat} {prune : Bool} {g : Game α}

/-- `solveReach` once validation has passed -/
theorem solveReach_eq (hc : checkGame g = .ok ()) (hi : initStates g = .ok ()) :
    solveReach rnd thr fuel prune g =
      match viReach g.owners g.tl
          (reverseDfs (g.tl.toList.map (fun row => row.map (·.tgt))) g.finals) thr fuel 1
          ((Array.range g.owners.size).map (fun s => if g.finals.contains s then 1 else 0)) 0 with
      | .error e => .error e
      | .ok x =>
        if (prune && (x.1.getD 0 0 == 0)) = true then .error .noSolution
        else .ok
          { probs := x.1, strat := reachStrategies rnd g.owners g.tl x.1, iters := x.2,
            order := reverseDfs (g.tl.toList.map (fun row => row.map (·.tgt))) g.finals } := by
  unfold solveReach
  rw [hc, hi]
  show (viReach _ _ _ _ _ _ _ _ >>= _) = _
  cases viReach g.owners g.tl
    (reverseDfs (g.tl.toList.map (fun row => row.map (·.tgt))) g.finals) thr fuel 1
    ((Array.range g.owners.size).map (fun s => if g.finals.contains s then 1 else 0)) 0 with
  | error e => rfl
  | ok x => rfl

theorem solveReach_eq_ok {r : ReachOut α} :
    solveReach rnd thr fuel prune g = .ok r ↔
      checkGame g = .ok () ∧ initStates g = .ok () ∧
      viReach g.owners g.tl
        (reverseDfs (g.tl.toList.map (fun row => row.map (·.tgt))) g.finals) thr fuel 1
        ((Array.range g.owners.size).map (fun s => if g.finals.contains s then 1 else 0)) 0
          = .ok (r.probs, r.iters) ∧
      (prune && (r.probs.getD 0 0 == 0)) = false ∧
      r.strat = reachStrategies rnd g.owners g.tl r.probs ∧
      r.order = reverseDfs (g.tl.toList.map (fun row => row.map (·.tgt))) g.finals := by
  cases hc : checkGame g with
  | error e =>
    exact ⟨fun h => (by unfold solveReach at h; rw [hc] at h; cases h), fun h => (nomatch h.1)⟩
  | ok _ =>
    cases hi : initStates g with
    | error e =>
      exact ⟨fun h => (by unfold solveReach at h; rw [hc, hi] at h; cases h),
        fun h => (nomatch h.2.1)⟩
    | ok _ =>
      rw [solveReach_eq hc hi]
      cases viReach g.owners g.tl
        (reverseDfs (g.tl.toList.map (fun row => row.map (·.tgt))) g.finals) thr fuel 1
        ((Array.range g.owners.size).map (fun s => if g.finals.contains s then 1 else 0)) 0 with
      | error e => exact ⟨fun h => (nomatch h), fun h => (nomatch h.2.2.1)⟩
      | ok x =>
        obtain ⟨reach, i⟩ := x
        show (if (prune && (reach.getD 0 0 == 0)) = true then _ else _) = _ ↔ _
        by_cases hp : (prune && (reach.getD 0 0 == 0)) = true
        · rw [if_pos hp]
          refine ⟨fun h => (nomatch h), fun h => ?_⟩
          obtain ⟨-, -, h1, h2, -⟩ := h
          cases h1
          exact absurd hp (by rw [h2]; exact Bool.false_ne_true)
        · rw [if_neg hp]
          refine ⟨fun h => ?_, fun h => ?_⟩
          · cases h; exact ⟨rfl, rfl, rfl, Bool.eq_false_iff.mpr hp, rfl, rfl⟩
          · obtain ⟨probs, strat, iters, order⟩ := r
            obtain ⟨-, -, h1, -, h3, h4⟩ := h
            dsimp only at h1 h3 h4
            cases h1
            rw [h3, h4]

theorem solveReach_order {r : ReachOut α} (H : solveReach rnd thr fuel prune g = .ok r) :
    r.order = reverseDfs (g.tl.toList.map (fun row => row.map (·.tgt))) g.finals :=
  (solveReach_eq_ok.mp H).2.2.2.2.2

theorem solveReach_strat {r : ReachOut α} (H : solveReach rnd thr fuel prune g = .ok r) :
    r.strat = reachStrategies rnd g.owners g.tl r.probs :=
  (solveReach_eq_ok.mp H).2.2.2.2.1

theorem solveReach_true_eq (rnd : α → Int) (thr : α) (fuel : Nat) (g : Game α) :
    solveReach rnd thr fuel true g =
      (solveReach rnd thr fuel false g).bind (fun r =>
        if r.probs.getD 0 0 == 0 then .error .noSolution else .ok r) := by
  cases hc : checkGame g with
  | error e => unfold solveReach; rw [hc]; rfl
  | ok _ =>
    cases hi : initStates g with
    | error e => unfold solveReach; rw [hc, hi]; rfl
    | ok _ =>
      rw [solveReach_eq hc hi, solveReach_eq hc hi]
      cases viReach g.owners g.tl
        (reverseDfs (g.tl.toList.map (fun row => row.map (·.tgt))) g.finals) thr fuel 1
        ((Array.range g.owners.size).map (fun s => if g.finals.contains s then 1 else 0)) 0 with
      | error e => rfl
      | ok x =>
        simp only [Bool.true_and, Bool.false_and, Bool.false_eq_true, if_false]
        rfl

/-- with pruning on, a run succeeds iff the run without pruning does and state 0 is not reported 0 -/
theorem solveReach_true_eq_ok {r : ReachOut α} :
    solveReach rnd thr fuel true g = .ok r ↔
      solveReach rnd thr fuel false g = .ok r ∧ (r.probs.getD 0 0 == 0) = false := by
  rw [solveReach_eq_ok, solveReach_eq_ok, Bool.true_and, Bool.false_and]
  exact ⟨fun ⟨hc, hi, hv, hp, hs, ho⟩ => ⟨⟨hc, hi, hv, rfl, hs, ho⟩, hp⟩,
    fun ⟨⟨hc, hi, hv, _, hs, ho⟩, hp⟩ => ⟨hc, hi, hv, hp, hs, ho⟩⟩

/-- …and fails with the error of the run without pruning, or with `noSolution` on its outcome -/
theorem solveReach_true_eq_error {e : Err} :
    solveReach rnd thr fuel true g = .error e ↔
      solveReach rnd thr fuel false g = .error e ∨
        ∃ r, solveReach rnd thr fuel false g = .ok r ∧ (r.probs.getD 0 0 == 0) = true ∧
          e = .noSolution := by
  rw [solveReach_true_eq]
  cases solveReach rnd thr fuel false g with
  | error e' => exact ⟨Or.inl, fun h => h.elim id fun ⟨_, h, _⟩ => nomatch h⟩
  | ok r =>
    show (if (r.probs.getD 0 0 == 0) = true then _ else _) = _ ↔ _
    by_cases hz : (r.probs.getD 0 0 == 0) = true
    · rw [if_pos hz]
      exact ⟨fun h => .inr ⟨r, rfl, hz, (Except.error.inj h).symm⟩,
        fun h => h.elim (fun h => nomatch h) fun ⟨_, _, _, he⟩ => he ▸ rfl⟩
    · rw [if_neg hz]
      exact ⟨fun h => (nomatch h), fun h => h.elim (fun h => nomatch h)
        fun ⟨_, hr, hz', _⟩ => absurd (Except.ok.inj hr ▸ hz') hz⟩

end SolveReach

/-! ### `prunePaths`, `condition` -/

section Rows
variable {α : Type}

theorem pruneReachability_size (owners : Array Owner) (strat : Array Strat)
    (nodes : Array (List (Tr α))) : (pruneReachability owners strat nodes).size = nodes.size := by
  unfold pruneReachability
  exact Array.size_mapIdx

theorem pruneReachability_getD (owners : Array Owner) (strat : Array Strat)
    (nodes : Array (List (Tr α))) (s : Nat) :
    (pruneReachability owners strat nodes).getD s [] =
      match owners.getD s .prob with
      | .p1 => (nodes.getD s []).filter (fun t => ((strat.getD s none).getD []).contains t.act)
      | _ => nodes.getD s [] := by
  unfold pruneReachability
  rw [getD_mapIdx _ _ _ [] [] (by cases owners.getD s .prob <;> rfl)]
  cases owners.getD s .prob <;> rfl

/-- the `targets` list of `pruneStatesRound` (membership, and `cleared`/`deadP1` as propositions:
`mem_roundTargets`, `cleared_iff`, `deadP1_iff` in `Lemmas/Prune`) -/
def roundTargets (nodes : Array (List (Tr α))) : List Nat :=
  0 :: (nodes.toList.flatMap (fun row => row.map (·.tgt)))

/-- `isCleared` of `pruneStatesRound` -/
def cleared (owners : Array Owner) (nodes : Array (List (Tr α))) (s : Nat) : Bool :=
  (owners.getD s .prob != .p1) && !((roundTargets nodes).contains s)

/-- `isDeadP1` of `pruneStatesRound` -/
def deadP1 (owners : Array Owner) (nodes : Array (List (Tr α))) (s : Nat) : Bool :=
  (owners.getD s .prob == .p1) && (nodes.getD s []).isEmpty && !((roundTargets nodes).contains s)

theorem pruneStatesRound_eq (owners : Array Owner) (nodes : Array (List (Tr α))) :
    pruneStatesRound owners nodes =
      (nodes.mapIdx (fun s row => if cleared owners nodes s then [] else row),
       (List.range nodes.size).filter (fun s => cleared owners nodes s || deadP1 owners nodes s)) :=
  rfl

theorem pruneStatesRound_size (owners : Array Owner) (nodes : Array (List (Tr α))) :
    (pruneStatesRound owners nodes).1.size = nodes.size := by
  rw [pruneStatesRound_eq]; exact Array.size_mapIdx

theorem pruneStatesRound_getD (owners : Array Owner) (nodes : Array (List (Tr α))) (s : Nat) :
    (pruneStatesRound owners nodes).1.getD s [] =
      if cleared owners nodes s then [] else nodes.getD s [] := by
  simp only [pruneStatesRound_eq]
  exact getD_mapIdx _ _ _ [] [] (ite_self _)

/-- what every round of the `prune_states` loop preserves holds of its result -/
theorem pruneStates_induct {owners : Array Owner} {P : Array (List (Tr α)) → Prop}
    (step : ∀ nodes, P nodes → P (pruneStatesRound owners nodes).1) :
    ∀ (fuel : Nat) (prev : List Nat) (nodes out : Array (List (Tr α))),
      P nodes → pruneStates owners fuel prev nodes = .ok out → P out
  | 0, _, _, _, _, h => nomatch h
  | fuel + 1, prev, nodes, out, hP, h => by
    unfold pruneStates at h
    by_cases hs : sameSet (pruneStatesRound owners nodes).2 prev = true
    · rw [if_pos hs] at h
      cases h
      exact step _ hP
    · rw [if_neg hs] at h
      exact pruneStates_induct step fuel _ _ _ (step _ hP) h

end Rows

section Condition
variable {α : Type} [Add α] [Div α] [BEq α] [OfNat α 0]

/-- the per-state function mapped by `prunePaths` -/
def pruneRow (owners : Array Owner) (reach : Array α) (nodes : Array (List (Tr α))) (s : Nat) :
    Except Err (List (Tr α)) :=
  let row := nodes.getD s []
  match owners.getD s .prob with
  | .p1 => .ok (prunePathsP1 reach row)
  | .prob => prunePathsProb reach row
  | .p2 => .ok row

theorem prunePaths_eq (owners : Array Owner) (reach : Array α) (nodes : Array (List (Tr α))) :
    prunePaths owners reach nodes = (Array.range nodes.size).mapM (pruneRow owners reach nodes) :=
  rfl

/-- a probabilistic row without dead successor is kept as it is -/
theorem prunePathsProb_of_len_eq (reach : Array α) (row : List (Tr α))
    (hl : (row.filter (fun t => !(reach.getD t.tgt 0 == 0))).length = row.length) :
    prunePathsProb reach row = .ok row := by
  unfold prunePathsProb
  simp only [ne_eq, hl, not_true_eq_false, if_false]

theorem prunePaths_eq_ok {owners : Array Owner} {reach : Array α}
    {nodes out : Array (List (Tr α))} :
    prunePaths owners reach nodes = .ok out ↔
      out.size = nodes.size ∧
        ∀ s, s < nodes.size → pruneRow owners reach nodes s = .ok (out.getD s []) := by
  rw [prunePaths_eq]; exact mapM_range_eq_ok _ []

theorem prunePaths_eq_error {owners : Array Owner} {reach : Array α}
    {nodes : Array (List (Tr α))} {e : Err} :
    prunePaths owners reach nodes = .error e ↔
      ∃ s, s < nodes.size ∧ (∀ j, j < s → ∃ row, pruneRow owners reach nodes j = .ok row) ∧
        pruneRow owners reach nodes s = .error e := by
  rw [prunePaths_eq]; exact mapM_range_eq_error _

theorem condition_false_eq (g : Game α) (strat : Array Strat) (reach : Array α) :
    condition false g strat reach = .ok (pruneReachability g.owners strat g.tl) := rfl

theorem condition_true_eq (g : Game α) (strat : Array Strat) (reach : Array α) :
    condition true g strat reach =
      (prunePaths g.owners reach (pruneReachability g.owners strat g.tl) >>= fun nodes =>
        pruneStates g.owners (g.owners.size + 2) [] nodes) := rfl

theorem condition_true_eq_ok {g : Game α} {strat : Array Strat} {reach : Array α}
    {nodes : Array (List (Tr α))} :
    condition true g strat reach = .ok nodes ↔
      ∃ base, prunePaths g.owners reach (pruneReachability g.owners strat g.tl) = .ok base ∧
        pruneStates g.owners (g.owners.size + 2) [] base = .ok nodes :=
  bind_eq_ok

end Condition

/-! ### `solve` -/

section Solve
variable {α : Type} [Add α] [Sub α] [Mul α] [Div α] [Neg α] [LT α] [DecidableLT α]
  [LE α] [DecidableLE α] [BEq α] [OfNat α 0] [OfNat α 1]
  {rnd : α → Int} {thr : α} {fuel : Nat} {prune : Bool} {g : Game α}

theorem solve_eq_ok {out : SolveOut α} :
    solve rnd thr fuel prune g = .ok out ↔
      ∃ ro, solveReach rnd thr fuel prune g = .ok ro ∧
        condition prune g ro.strat ro.probs = .ok out.nodes ∧
        viRew rnd g.owners g.rewards out.nodes ro.probs thr fuel 1
          ⟨g.rewards, g.rewards, ro.probs⟩ 0
            = .ok (⟨out.rewards, out.rewMinReach, out.probMinRew⟩, out.itRew) ∧
        out.finalStrat = rewardStrategies rnd g.owners out.nodes out.rewards ∧
        out.reachStrat = ro.strat ∧ out.probs = ro.probs ∧ out.itReach = ro.iters := by
  unfold solve
  simp only [bind_eq_ok]
  constructor
  · rintro ⟨ro, hro, nodes, hc, ⟨v, j⟩, hv, h⟩
    cases h
    exact ⟨ro, hro, hc, hv, rfl, rfl, rfl, rfl⟩
  · rintro ⟨ro, hro, hc, hv, h1, h2, h3, h4⟩
    refine ⟨ro, hro, _, hc, _, hv, ?_⟩
    obtain ⟨fs, rs, rw, pr, ir, iw, pm, rm, nd⟩ := out
    dsimp only at h1 h2 h3 h4
    rw [h1, h2, h3, h4]
    rfl

theorem solve_eq_error {e : Err} :
    solve rnd thr fuel prune g = .error e ↔
      solveReach rnd thr fuel prune g = .error e ∨
      ∃ ro, solveReach rnd thr fuel prune g = .ok ro ∧
        (condition prune g ro.strat ro.probs = .error e ∨
         ∃ nodes, condition prune g ro.strat ro.probs = .ok nodes ∧
          viRew rnd g.owners g.rewards nodes ro.probs thr fuel 1
            ⟨g.rewards, g.rewards, ro.probs⟩ 0 = .error e) := by
  unfold solve
  simp only [bind_eq_error]
  refine or_congr_right (exists_congr fun ro => and_congr_right fun _ => or_congr_right
    (exists_congr fun nodes => and_congr_right fun _ => ?_))
  exact ⟨fun h => h.elim id fun ⟨_, _, h⟩ => (nomatch h), .inl⟩

end Solve

end CR
