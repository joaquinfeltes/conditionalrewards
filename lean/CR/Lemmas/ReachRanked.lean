/-
Lemmas for `CR/Props/C01Ranked.lean`.  On games that are acyclic apart from final and absorbing
states (`ReachRanked`) the Bellman equations of the reachability game have exactly one solution
that is 0 at the non-final absorbing states (`ExactReach`; `Bell` is a `VI.RankedOp`), that
solution is the value (the least pre-fixed point), and the Gauss–Seidel sweeps of `solveReach`
settle the states rank by rank: from the `k`-th iterate on those of `LowO k` carry their value.
-/
import CR.Props.C01Path
import CR.Props.C01Value
import CR.Lemmas.RankedOp

namespace CR.ReachRank

open CR CR.VI CR.C01

variable {K : Type}

/-- `s` is absorbing: it has at least one transition and every transition of `s` returns to `s`
(the sinks `[(1, s)]`, the final states of the example games, Player states that can only loop);
weaker than `C06.Absorbing`, which also asks for a probabilistic owner, reward 0 and probability 1 -/
def Absorbing (g : Game K) (s : Nat) : Prop :=
  g.tl.getD s [] ≠ [] ∧ ∀ t ∈ g.tl.getD s [], t.tgt = s

instance (g : Game K) (s : Nat) : Decidable (Absorbing g s) := by unfold Absorbing; infer_instance

/-- final or absorbing: the states whose value does not depend on any other state -/
def Pinned (g : Game K) (s : Nat) : Prop := s ∈ g.finals ∨ Absorbing g s

/-- the game is acyclic apart from final and absorbing states, as witnessed by a rank `rk ≤ R` -/
structure ReachRanked (g : Game K) (rk : Nat → Nat) (R : Nat) : Prop where
  bound : ∀ s < g.owners.size, rk s ≤ R
  step : ∀ s < g.owners.size, s ∉ g.finals → ¬ Absorbing g s → ∀ t ∈ g.tl.getD s [],
    t.tgt < g.owners.size ∧ (t.tgt ∈ g.finals ∨ Absorbing g t.tgt ∨ rk t.tgt < rk s)

-- the per-state condition is given as a local instance: synthesis does not get through the bounded
-- quantifier to the chain of implications in one go
instance (g : Game K) (rk : Nat → Nat) (R : Nat) : Decidable (ReachRanked g rk R) :=
  haveI (s : Nat) : Decidable (s ∉ g.finals → ¬ Absorbing g s → ∀ t ∈ g.tl.getD s [],
      t.tgt < g.owners.size ∧ (t.tgt ∈ g.finals ∨ Absorbing g t.tgt ∨ rk t.tgt < rk s)) :=
    inferInstance
  decidable_of_iff ((∀ s < g.owners.size, rk s ≤ R) ∧
      ∀ s < g.owners.size, s ∉ g.finals → ¬ Absorbing g s → ∀ t ∈ g.tl.getD s [],
        t.tgt < g.owners.size ∧ (t.tgt ∈ g.finals ∨ Absorbing g t.tgt ∨ rk t.tgt < rk s))
    ⟨fun h => ⟨h.1, h.2⟩, fun h => ⟨h.bound, h.step⟩⟩

/-- the states that are settled after `k` sweeps over `ord`: the final and absorbing ones, those
outside `ord` (never updated), and those of rank `< k` -/
def LowO (g : Game K) (rk : Nat → Nat) (ord : List Nat) (k s : Nat) : Prop :=
  Pinned g s ∨ s ∉ ord ∨ rk s < k

section
variable {g : Game K} {rk : Nat → Nat} {R : Nat}

theorem ReachRanked.step_pinned (hrk : ReachRanked g rk R) {s : Nat} (hs : s < g.owners.size)
    (hp : ¬ Pinned g s) : ∀ t ∈ g.tl.getD s [],
      t.tgt < g.owners.size ∧ (Pinned g t.tgt ∨ rk t.tgt < rk s) := fun t ht =>
  (hrk.step s hs (fun h => hp (Or.inl h)) (fun h => hp (Or.inr h)) t ht).imp_right or_assoc.mpr

theorem LowO.mono {ord : List Nat} {k k' s : Nat} (h : LowO g rk ord k s) (hk : k ≤ k') :
    LowO g rk ord k' s :=
  h.imp_right (Or.imp_right fun h => Nat.lt_of_lt_of_le h hk)

theorem ReachRanked.lowO_succ (hrk : ReachRanked g rk R) {ord : List Nat}
    (hord : ∀ s ∈ ord, s ∉ g.finals) (k : Nat) {s : Nat} (hs : s < g.owners.size) (hso : s ∈ ord)
    (hlow : LowO g rk ord (k + 1) s) :
    ∀ t ∈ g.tl.getD s [], t.tgt < g.owners.size ∧ LowO g rk ord k t.tgt := by
  intro t ht
  by_cases hp : Pinned g s
  · -- swept, hence not final: absorbing, and the successor is `s` itself
    rw [(hp.resolve_left (hord s hso)).2 t ht]
    exact ⟨hs, Or.inl hp⟩
  · obtain ⟨htn, h⟩ := hrk.step_pinned hs hp t ht
    refine ⟨htn, h.imp_right fun h => Or.inr ?_⟩
    have := (hlow.resolve_left hp).resolve_left fun h => h hso
    omega

end

variable [Field K] [LinearOrder K] [IsStrictOrderedRing K] {g : Game K} {rk : Nat → Nat} {R : Nat}

/-- `w` solves the Bellman equations of the reachability game exactly: it is a fixed point of
`Bell` at every state (hence 1 at the final states), and it is 0 at the non-final absorbing states
(where the equation `w[s] = w[s]` says nothing) -/
def ExactReach (g : Game K) (w : Array K) : Prop :=
  (∀ s < g.owners.size, Bell g w s = w.getD s 0) ∧
    ∀ s < g.owners.size, s ∉ g.finals → Absorbing g s → w.getD s 0 = 0

instance (g : Game K) (w : Array K) : Decidable (ExactReach g w) := by
  unfold ExactReach; infer_instance

/-- `x` and `w` have the same entries on `D`; used with `D = LowO g rk ord k`, `x` the `k`-th iterate
and `w` the value -/
def AgreeOn (n : Nat) (D : Nat → Prop) (x w : Array K) : Prop :=
  ∀ s < n, D s → x.getD s 0 = w.getD s 0

omit [IsStrictOrderedRing K] in
theorem getD_final_of_fixed {w : Array K} (hw : ∀ s < g.owners.size, Bell g w s = w.getD s 0) {s : Nat}
    (hs : s < g.owners.size) (hf : s ∈ g.finals) : w.getD s 0 = 1 := by
  rw [← hw s hs, Bell_final w hf]

omit [IsStrictOrderedRing K] in
theorem ExactReach.getD_pinned {w : Array K} (hw : ExactReach g w) {s : Nat}
    (hs : s < g.owners.size) (hp : Pinned g s) : w.getD s 0 = (initVec g).getD s 0 := by
  by_cases hf : s ∈ g.finals
  · rw [getD_final_of_fixed hw.1 hs hf, getD_initVec_final hs hf]
  · rw [hw.2 s hs hf (hp.resolve_left hf), getD_initVec_nonfinal hf]

set_option linter.unusedSectionVars false in
theorem ExactReach.pinned {w w' : Array K} (hw : ExactReach g w) (hw' : ExactReach g w') {s : Nat}
    (hs : s < g.owners.size) (hp : Pinned g s) : w.getD s 0 = w'.getD s 0 :=
  (hw.getD_pinned hs hp).trans (hw'.getD_pinned hs hp).symm

omit [IsStrictOrderedRing K] in
theorem ReachRanked.op (hrk : ReachRanked g rk R) :
    RankedOp g.owners.size g.tl (Pinned g) rk (Bell g) :=
  ⟨fun _ hs hp => hrk.step_pinned hs hp, Bell_congr⟩

/-- a ranked well-formed game has an exact solution: at a final or absorbing state the entry of
the initial vector satisfies the equation whatever the other entries are -/
theorem exactReach_exists (hwf : WF g) (hrk : ReachRanked g rk R) :
    ∃ w : Array K, w.size = g.owners.size ∧ ExactReach g w := by
  obtain ⟨w, hsz, hfix, hc⟩ := hrk.op.exists_fix hrk.bound (fun s => (initVec g).getD s 0)
    fun s hs hp x hx => by
      by_cases hf : s ∈ g.finals
      · rw [Bell_final x hf, getD_initVec_final hs hf]
      · have ha := hp.resolve_left hf
        rw [getD_initVec_nonfinal hf] at hx ⊢
        rw [Bell_nonfinal x hf]
        exact stepReach_eq_zero (hwf.rowNonneg s hs) (fun _ => ha.1) x fun t ht => by
          rw [ha.2 t ht, hx]
  exact ⟨w, hsz, hfix, fun s hs hnf ha => by rw [hc s hs (Or.inr ha), getD_initVec_nonfinal hnf]⟩

theorem ExactReach.nonneg {w : Array K} (hw : ExactReach g w) (hwf : WF g)
    (hrk : ReachRanked g rk R) : ∀ s < g.owners.size, 0 ≤ w.getD s 0 :=
  rank_induction hrk.op.step _ (fun s hs hp => hw.getD_pinned hs hp ▸ (initVec_range g s).1)
    fun s hs hp ih => by
      rw [← hw.1 s hs, Bell_nonfinal w fun h => hp (Or.inl h)]
      exact stepReach_nonneg (hwf.rowNonneg s hs) w fun t ht => (ih t ht).2.1

theorem ExactReach.le_prefixed {w y : Array K} (hw : ExactReach g w) (hwf : WF g)
    (hrk : ReachRanked g rk R) (hy : PreFixed g y) :
    ∀ s < g.owners.size, w.getD s 0 ≤ y.getD s 0 :=
  rank_induction hrk.op.step _ (fun s hs hp => hw.getD_pinned hs hp ▸ initVec_le_prefixed hy s)
    fun s hs hp ih => by
      have hnf : s ∉ g.finals := fun h => hp (Or.inl h)
      refine le_trans ?_ (hy.bell_le s hs)
      rw [← hw.1 s hs, Bell_nonfinal w hnf, Bell_nonfinal y hnf]
      exact stepReach_mono (hwf.rowNonneg s hs) w y fun t ht => (ih t ht).2.1

theorem ExactReach.isValue {w : Array K} (hw : ExactReach g w) (hwf : WF g)
    (hrk : ReachRanked g rk R) (hsz : w.size = g.owners.size) : IsValue g w :=
  ⟨⟨hsz, hw.nonneg hwf hrk, fun s hs => le_of_eq (hw.1 s hs)⟩, fun _ hy => hw.le_prefixed hwf hrk hy⟩

/-- no rank needed: otherwise the entry could be lowered to 0 (`PreFixed.lower`; all successors
of `s` are `s` itself) -/
theorem _root_.CR.C01.IsValue.zero_of_absorbing {v : Array K} (hv : IsValue g v) (hwf : WF g) {s : Nat}
    (hs : s < g.owners.size) (hnf : s ∉ g.finals) (ha : Absorbing g s) : v.getD s 0 = 0 := by
  have hvs := (value_range g hwf v hv s).1
  have hys : (v.setIfInBounds s 0).getD s 0 = 0 := getD_set_self _ _ (hv.prefixed.size ▸ hs)
  have hpre := hv.prefixed.lower hwf hs le_rfl hvs <| by
    rw [Bell_nonfinal _ hnf]
    exact (stepReach_eq_zero (hwf.rowNonneg s hs) (fun _ => ha.1) _ fun t ht => by
      rw [ha.2 t ht, hys]).le
  exact le_antisymm ((hv.least hpre s hs).trans_eq hys) hvs

theorem _root_.CR.C01.IsValue.exactReach {v : Array K} (hv : IsValue g v) (hwf : WF g) :
    ExactReach g v :=
  ⟨value_fixed g hwf v hv, fun _ hs hnf ha => hv.zero_of_absorbing hwf hs hnf ha⟩

theorem sweepVec_agree (hrk : ReachRanked g rk R) (w : Array K)
    (hw : ∀ s < g.owners.size, Bell g w s = w.getD s 0) (ord : List Nat) (hnd : ord.Nodup)
    (hord : ∀ s ∈ ord, s ∉ g.finals) (k : Nat) (x : Array K) (hsz : x.size = g.owners.size)
    (hag : AgreeOn g.owners.size (LowO g rk ord k) x w) :
    AgreeOn g.owners.size (LowO g rk ord (k + 1)) (sweepVec g.owners g.tl ord x) w := by
  -- a write at a swept state of `LowO (k+1)` into a vector that agrees with `w` on `LowO k`
  -- writes the entry of `w`: the successors are in `LowO k`
  have hwrite : ∀ y : Array K, AgreeOn g.owners.size (LowO g rk ord k) y w → ∀ s ∈ ord,
      s < g.owners.size → LowO g rk ord (k + 1) s → stepReach g.owners g.tl y s = w.getD s 0 := by
    intro y hy s hso hs hlow
    rw [← hw s hs, Bell_nonfinal w (hord s hso)]
    exact stepReach_congr _ _ _ fun t ht =>
      let ⟨htn, hlt⟩ := hrk.lowO_succ hord k hs hso hlow t ht; hy _ htn hlt
  -- so agreement on `LowO k` survives every write of the sweep
  have hinv : ∀ l, (∀ s ∈ l, s ∈ ord) →
      AgreeOn g.owners.size (LowO g rk ord k) (sweepFrom g.owners g.tl l (x, 0)).1 w := fun l hl =>
    sweepFrom_inv (fun y => AgreeOn g.owners.size (LowO g rk ord k) y w) l
      (fun y s hs hy j hj hD => getD_set_ind (fun j v => j < g.owners.size →
          LowO g rk ord k j → v = w.getD j 0) (fun j hj hD => hy j hj hD)
        (fun _ hj hD => hwrite y hy s (hl s hs) hj (hD.mono (Nat.le_succ k))) j hj hD)
      (x, 0) hag
  intro s hs hlow
  show (sweepFrom g.owners g.tl ord (x, 0)).1.getD s 0 = _
  by_cases hso : s ∈ ord
  · -- when `s` is visited the vector agrees with `w` on `LowO k`; nothing touches `s` afterwards
    obtain ⟨l1, l2, rfl, -, h2, -, -⟩ :=
      sweepFrom_visit g.owners g.tl hnd (x, 0) hso (hsz ▸ hs)
    rw [h2]
    exact hwrite _ (hinv l1 fun s h => List.mem_append_left _ h) s hso hs hlow
  · exact hinv ord (fun _ h => h) s hs (Or.inr (Or.inl hso))

theorem initVec_agree (hwf : WF g) (hne : ∀ s < g.owners.size, g.tl.getD s [] ≠ []) {v : Array K}
    (hv : IsValue g v) : AgreeOn g.owners.size (LowO g rk (gameOrder g) 0) (initVec g) v := by
  rintro s hs (h | h | h)
  · exact ((hv.exactReach hwf).getD_pinned hs h).symm
  · by_cases hf : s ∈ g.finals
    · exact ((hv.exactReach hwf).getD_pinned hs (Or.inl hf)).symm
    · rw [getD_initVec_nonfinal hf, value_zero_off_order hwf hne hv hs hf h]
  · exact absurd h (Nat.not_lt_zero _)

theorem iterates_settled (hwf : WF g) (hne : ∀ s < g.owners.size, g.tl.getD s [] ≠ [])
    (hrk : ReachRanked g rk R) {v : Array K} (hv : IsValue g v) (k k' : Nat) (hk : k ≤ k') :
    AgreeOn g.owners.size (LowO g rk (gameOrder g) k) (iter g k') v := by
  have key : ∀ k, AgreeOn g.owners.size (LowO g rk (gameOrder g) k) (iter g k) v := fun k => by
    induction k with
    | zero => exact initVec_agree hwf hne hv
    | succ k ih =>
      rw [iter_succ]
      exact sweepVec_agree hrk v (value_fixed g hwf v hv) _ (gameOrder_nodup g)
        (fun _ h => gameOrder_not_final h) k _ (iter_size g k) ih
  exact fun s hs hlow => key k' s hs (hlow.mono hk)

end CR.ReachRank
