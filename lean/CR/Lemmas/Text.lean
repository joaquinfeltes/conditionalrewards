/-
For the text part of C11 (`CR/Model/Text.lean`).  The quote-tracking scans (`stripAux`, `safeFrom`, `endState`)
are compositional.  One `str.replace` whose pattern starts with a character that cannot occur inside a string
literal, and whose replacement text differs from the pattern by white space outside literals only, changes
neither the token view nor that the text is scanned safely (`replaceAll_scan`).  `Tok a b`: `a` is scanned
safely, ends outside a literal and has the token view `b`; `tok_render : Tok (renderLit l) (renderC l)` for the
compact rendering `renderC`, which is read in one way only (`renderC_prefix`, by the argument of
`CR/Lemmas/Chars.lean`).
-/
import CR.Model.Text
import CR.Lemmas.Chars

namespace CR.TextLemmas

open CR.Text CR.Chars

theorem replaceAux_skip (pat rep : List Char) :
    ∀ (l s : List Char), replaceAux pat rep l.length (l ++ s) = replaceAux pat rep 0 s
  | [], s => rfl
  | _ :: l, s => by
    simp only [List.length_cons, List.cons_append, replaceAux]
    exact replaceAux_skip pat rep l s

theorem replaceAll_nil (p : Char) (pt rep : List Char) : replaceAll (p :: pt) rep [] = [] := rfl

theorem replaceAll_match (p : Char) (pt rep s : List Char) :
    replaceAll (p :: pt) rep (p :: pt ++ s) = rep ++ replaceAll (p :: pt) rep s := by
  have hp : (p :: pt).isPrefixOf (p :: (pt ++ s)) = true := by
    rw [List.isPrefixOf_iff_prefix]; exact ⟨s, rfl⟩
  simp only [replaceAll, List.cons_append, replaceAux, hp, if_true, List.length_cons,
    Nat.add_sub_cancel]
  rw [replaceAux_skip]

theorem replaceAll_step (p : Char) (pt rep : List Char) (c : Char) (s : List Char)
    (hn : ¬ p :: pt <+: c :: s) :
    replaceAll (p :: pt) rep (c :: s) = c :: replaceAll (p :: pt) rep s := by
  have hp : (p :: pt).isPrefixOf (c :: s) = false := by
    rw [← Bool.not_eq_true, List.isPrefixOf_iff_prefix]; exact hn
  simp only [replaceAll, replaceAux, hp, Bool.false_eq_true, if_false]

theorem stripAux_append : ∀ (l t : List Char) (q : Bool),
    stripAux q (l ++ t) = stripAux q l ++ stripAux (endState q l) t
  | [], t, q => rfl
  | c :: l, t, q => by
    simp only [List.cons_append, stripAux, endState]
    split
    · rw [stripAux_append l t]; rfl
    · split
      · rw [stripAux_append l t]
      · rw [stripAux_append l t]; rfl

theorem safeFrom_append : ∀ (l t : List Char) (q : Bool),
    safeFrom q (l ++ t) = (safeFrom q l && safeFrom (endState q l) t)
  | [], t, q => by simp [safeFrom, endState]
  | c :: l, t, q => by
    simp only [List.cons_append, safeFrom, endState]
    split
    · rw [safeFrom_append l t]
    · rw [safeFrom_append l t, Bool.and_assoc]

theorem endState_append : ∀ (l t : List Char) (q : Bool),
    endState q (l ++ t) = endState (endState q l) t
  | [], t, q => rfl
  | c :: l, t, q => by
    simp only [List.cons_append, endState]
    split <;> rw [endState_append l t]

theorem endState_stripAux : ∀ (l : List Char) (q q' : Bool),
    endState q (stripAux q' l) = endState q l
  | [], q, q' => rfl
  | c :: l, q, q' => by
    simp only [stripAux]
    split
    · rename_i h
      simp only [endState, h, if_true]
      exact endState_stripAux l _ _
    · rename_i h
      split
      · simp only [endState, h, if_false]
        exact endState_stripAux l _ _
      · simp only [endState, h, if_false]
        exact endState_stripAux l _ _

theorem inStrOK_quote : inStrOK '\'' = false := by decide

theorem safeFrom_head_outside {p0 : Char} {s : List Char} {q : Bool} (h0 : inStrOK p0 = false)
    (hq : p0 ≠ '\'') (h : safeFrom q (p0 :: s) = true) : q = false := by
  cases q with
  | false => rfl
  | true => simp [safeFrom, hq, h0] at h

/-- `n` bounds the length: a match skips the whole pattern, so the recursion is not structural.  A match begins
outside a literal (`safeFrom_head_outside`), where pattern and replacement have the same token view and leave
the scan in the same state. -/
theorem replaceAll_scan (p0 : Char) (pt rep : List Char) (h0 : inStrOK p0 = false)
    (hq : p0 ≠ '\'') (hrep : stripWs rep = stripWs (p0 :: pt)) :
    ∀ (n : Nat) (q : Bool) (s : List Char), s.length ≤ n → safeFrom q s = true →
      stripAux q (replaceAll (p0 :: pt) rep s) = stripAux q s ∧
        (safeFrom false rep = true → safeFrom q (replaceAll (p0 :: pt) rep s) = true)
  | _, q, [] => fun _ _ => by
    rw [replaceAll_nil]; exact ⟨rfl, fun _ => rfl⟩
  | 0, q, c :: s => fun hn _ => absurd hn (Nat.not_succ_le_zero _)
  | n + 1, q, c :: s => fun hn hs => by
    by_cases hpre : (p0 :: pt) <+: c :: s
    · obtain ⟨t, ht⟩ := hpre
      have hc : c = p0 := by
        simp only [List.cons_append, List.cons.injEq] at ht; exact ht.1.symm
      subst hc
      have hq0 : q = false := safeFrom_head_outside h0 hq hs
      subst hq0
      rw [← ht] at hs hn ⊢
      have he : endState false rep = endState false (c :: pt) := by
        rw [← endState_stripAux rep false false, ← endState_stripAux (c :: pt) false false]
        exact congrArg (endState false) hrep
      rw [safeFrom_append, Bool.and_eq_true] at hs
      have hlen : t.length ≤ n := by
        simp only [List.length_append, List.length_cons] at hn; omega
      obtain ⟨ih1, ih2⟩ := replaceAll_scan c pt rep h0 hq hrep n _ t hlen hs.2
      rw [replaceAll_match, stripAux_append, stripAux_append, safeFrom_append, he, ih1]
      exact ⟨congrArg (· ++ _) hrep, fun hsafe => by rw [hsafe, ih2 hsafe]; rfl⟩
    · rw [replaceAll_step _ _ _ _ _ hpre]
      have hlen : s.length ≤ n := Nat.le_of_succ_le_succ hn
      simp only [safeFrom] at hs
      simp only [stripAux, safeFrom]
      by_cases hcq : c = '\''
      · rw [if_pos hcq] at hs
        obtain ⟨ih1, ih2⟩ := replaceAll_scan p0 pt rep h0 hq hrep n _ s hlen hs
        rw [if_pos hcq, if_pos hcq, if_pos hcq, ih1]
        exact ⟨rfl, ih2⟩
      · rw [if_neg hcq, Bool.and_eq_true] at hs
        obtain ⟨ih1, ih2⟩ := replaceAll_scan p0 pt rep h0 hq hrep n _ s hlen hs.2
        rw [if_neg hcq, if_neg hcq, if_neg hcq, ih1]
        exact ⟨rfl, fun hsafe => by rw [ih2 hsafe, hs.1]; rfl⟩

mutual
/-- `renderLit` with the separators `","` and `":"` -/
def renderC : Lit → List Char
  | .int i => (toString i).toList
  | .num a => a.toList
  | .str s => quoted s
  | .tuple xs => '(' :: (seqC xs ++ tupleClose xs)
  | .list xs => '[' :: (seqC xs ++ [']'])
  | .dict kvs => '{' :: (kvsC kvs ++ ['}'])
def seqC : List Lit → List Char
  | [] => []
  | [x] => renderC x
  | x :: y :: r => renderC x ++ ',' :: seqC (y :: r)
def kvsC : List (String × Lit) → List Char
  | [] => []
  | [(k, v)] => quoted k ++ ':' :: renderC v
  | (k, v) :: kv :: r => quoted k ++ ':' :: (renderC v ++ ',' :: kvsC (kv :: r))
end

theorem inStrOK_ne_quote {c : Char} (h : inStrOK c = true) : c ≠ '\'' := by
  rintro rfl; rw [inStrOK_quote] at h; cases h

theorem safeFrom_endState_of_inStr : ∀ (l : List Char), (∀ c ∈ l, inStrOK c = true) →
    safeFrom true l = true ∧ endState true l = true
  | [], _ => ⟨rfl, rfl⟩
  | c :: l, h => by
    have hc := h c (by simp)
    have ih := safeFrom_endState_of_inStr l (fun x hx => h x (by simp [hx]))
    simp only [safeFrom, endState, if_neg (inStrOK_ne_quote hc), hc, ih.1, ih.2]
    exact ⟨rfl, trivial⟩

theorem safeStr_iff {k : String} : safeStr k = true ↔ ∀ c ∈ k.toList, inStrOK c = true := by
  simp [safeStr, List.all_eq_true]

theorem stripAux_true_of_no_quote : ∀ (l : List Char), (∀ c ∈ l, c ≠ '\'') → stripAux true l = l
  | [], _ => rfl
  | c :: l, h => by
    have hc := h c (by simp)
    have ih := stripAux_true_of_no_quote l (fun x hx => h x (by simp [hx]))
    simp only [stripAux, if_neg hc, Bool.true_eq_false, false_and, if_false, ih]

def Tok (a b : List Char) : Prop :=
  safeFrom false a = true ∧ endState false a = false ∧ stripWs a = b

theorem tok_nil : Tok [] [] := ⟨rfl, rfl, rfl⟩

theorem tok_append {a b a' b' : List Char} (h : Tok a b) (h' : Tok a' b') :
    Tok (a ++ a') (b ++ b') :=
  ⟨by rw [safeFrom_append, h.1, h.2.1, h'.1]; rfl, by rw [endState_append, h.2.1, h'.2.1],
    by rw [stripWs, stripAux_append, h.2.1, ← h.2.2, ← h'.2.2]; rfl⟩

theorem tok_cons {a b : List Char} (c : Char) (hq : c ≠ '\'') (h : Tok a b) :
    Tok (c :: a) (if isWs c then b else c :: b) := by
  refine ⟨by simp only [safeFrom, if_neg hq, h.1]; rfl, by simp only [endState, if_neg hq, h.2.1],
    ?_⟩
  simp only [stripWs, stripAux, if_neg hq, true_and, isWs, Bool.or_eq_true, beq_iff_eq]
  split <;> simp only [← h.2.2, stripWs]

theorem tok_id : ∀ l : List Char, (∀ c ∈ l, c ≠ '\'' ∧ isWs c = false) → Tok l l
  | [], _ => tok_nil
  | c :: l, h => by
    have := tok_cons c (h c (.head _)).1 (tok_id l fun x hx => h x (.tail _ hx))
    rwa [(h c (.head _)).2] at this

theorem tok_quoted {k : String} (h : safeStr k = true) : Tok (quoted k) (quoted k) := by
  have hb := safeFrom_endState_of_inStr k.toList (safeStr_iff.1 h)
  have hq : ∀ c ∈ k.toList, c ≠ '\'' := fun c hc => inStrOK_ne_quote (safeStr_iff.1 h c hc)
  refine ⟨?_, ?_, ?_⟩
  · simp only [quoted, safeFrom, if_true, Bool.not_false, safeFrom_append, hb.1, hb.2,
      Bool.not_true, Bool.and_self]
  · simp only [quoted, endState, if_true, Bool.not_false, endState_append, hb.2, Bool.not_true]
  · simp only [stripWs, quoted, stripAux, if_true, Bool.not_false, stripAux_append, hb.2,
      stripAux_true_of_no_quote _ hq]

theorem tok_int (i : Int) : Tok (toString i).toList (toString i).toList :=
  tok_id _ fun c hc => by
    have h := int_toString_chars i c hc
    have h1 : (c == ' ') = false := beq_eq_false_iff_ne.2 (digit_ne h rfl)
    have h2 : (c == '\n') = false := beq_eq_false_iff_ne.2 (digit_ne h rfl)
    exact ⟨digit_ne h rfl, by rw [isWs, h1, h2]; rfl⟩

theorem tok_num {a : String} (h : numOK a = true) : Tok a.toList a.toList :=
  tok_id _ fun c hc => by
    have := List.all_eq_true.1 h c hc
    constructor
    · rintro rfl; exact absurd this (by decide)
    · cases hw : isWs c
      · rfl
      · simp [atomChOK, hw] at this

mutual
theorem tok_render : (l : Lit) → litOK l = true → Tok (renderLit l) (renderC l)
  | .int i, _ => tok_int i
  | .num _, h => tok_num h
  | .str _, h => tok_quoted h
  | .tuple xs, h => tok_cons '(' (by decide) (tok_append (tok_seq xs h)
      (tok_id _ (by unfold tupleClose; split <;> decide)))
  | .list xs, h => tok_cons '[' (by decide) (tok_append (tok_seq xs h) (tok_id [']'] (by decide)))
  | .dict kvs, h => tok_cons '{' (by decide) (tok_append (tok_kvs kvs h) (tok_id ['}'] (by decide)))
theorem tok_seq : (xs : List Lit) → seqOK xs = true → Tok (renderSeq xs) (seqC xs)
  | [], _ => tok_nil
  | [x], h => by
    simp only [seqOK, Bool.and_true] at h
    exact tok_render x h
  | x :: y :: r, h => by
    rw [seqOK, Bool.and_eq_true] at h
    exact tok_append (tok_render x h.1)
      (tok_cons ',' (by decide) (tok_cons ' ' (by decide) (tok_seq (y :: r) h.2)))
theorem tok_kvs : (kvs : List (String × Lit)) → kvsOK kvs = true → Tok (renderKVs kvs) (kvsC kvs)
  | [], _ => tok_nil
  | [(k, v)], h => by
    simp only [kvsOK, Bool.and_true, Bool.and_eq_true] at h
    exact tok_append (tok_quoted h.1)
      (tok_cons ':' (by decide) (tok_cons ' ' (by decide) (tok_render v h.2)))
  | (k, v) :: kv :: r, h => by
    rw [kvsOK, Bool.and_eq_true, Bool.and_eq_true] at h
    exact tok_append (tok_quoted h.1)
      (tok_cons ':' (by decide) (tok_cons ' ' (by decide) (tok_append (tok_render v h.2.1)
        (tok_cons ',' (by decide) (tok_cons ' ' (by decide) (tok_kvs (kv :: r) h.2.2))))))
end

theorem strip_render (l : Lit) (h : litOK l = true) : stripWs (renderLit l) = renderC l :=
  (tok_render l h).2.2

theorem strip_seq : (xs : List Lit) → seqOK xs = true → stripWs (renderSeq xs) = seqC xs :=
  fun xs h => (tok_seq xs h).2.2

theorem strip_kvs : (kvs : List (String × Lit)) → kvsOK kvs = true →
    stripWs (renderKVs kvs) = kvsC kvs :=
  fun kvs h => (tok_kvs kvs h).2.2

/-- the characters that can follow a literal -/
def Delim (c : Char) : Prop := c = ',' ∨ c = ']' ∨ c = ')' ∨ c = '}'

instance : DecidablePred Delim := fun c => by unfold Delim; infer_instance

def kind : Lit → Nat
  | .int _ => 0
  | .num _ => 0
  | .str _ => 1
  | .tuple _ => 2
  | .list _ => 3
  | .dict _ => 4

theorem str_of_kind : ∀ {b : Lit}, kind b = 1 → ∃ s, b = .str s
  | .str s, _ => ⟨s, rfl⟩
theorem tuple_of_kind : ∀ {b : Lit}, kind b = 2 → ∃ ys, b = .tuple ys
  | .tuple ys, _ => ⟨ys, rfl⟩
theorem list_of_kind : ∀ {b : Lit}, kind b = 3 → ∃ ys, b = .list ys
  | .list ys, _ => ⟨ys, rfl⟩
theorem dict_of_kind : ∀ {b : Lit}, kind b = 4 → ∃ ls, b = .dict ls
  | .dict ls, _ => ⟨ls, rfl⟩

/-- the kind of literal a text beginning with `c` can be -/
def cls (c : Char) : Nat :=
  if c = '\'' then 1 else if c = '(' then 2 else if c = '[' then 3 else if c = '{' then 4 else 0

theorem atomChWF_head {c : Char} (h : atomChWF c = true) : cls c = 0 ∧ ¬ Delim c := by
  constructor
  · unfold cls
    rw [if_neg, if_neg, if_neg, if_neg] <;> (rintro rfl; exact absurd h (by decide))
  · rintro (rfl | rfl | rfl | rfl) <;> exact absurd h (by decide)

theorem atomChWF_of_digit {c : Char} (h : c.isDigit = true ∨ c = '-') : atomChWF c = true := by
  have hne : ∀ d : Char, (d.isDigit || d == '-') = false → (c == d) = false :=
    fun d hd => beq_eq_false_iff_ne.2 (digit_ne h hd)
  simp only [atomChWF, atomChOK, isWs]
  rw [hne ' ' rfl, hne '\n' rfl, hne '[' rfl, hne ']' rfl, hne '(' rfl, hne ')' rfl, hne '\'' rfl,
    hne ',' rfl, hne ':' rfl, hne '{' rfl, hne '}' rfl]
  rfl

theorem numWF_iff {a : String} : numWF a = true ↔
    a.toList ≠ [] ∧ (∀ c ∈ a.toList, atomChWF c = true) ∧
      ∃ c ∈ a.toList, ¬ (c.isDigit = true ∨ c = '-') := by
  simp [numWF, List.all_eq_true, List.any_eq_true, and_assoc]

theorem atom_chars (a : Lit) (hk : kind a = 0) (hw : litWF a = true) :
    renderC a ≠ [] ∧ ∀ c ∈ renderC a, atomChWF c = true := by
  cases a with
  | int i =>
    rw [renderC]
    exact ⟨int_toString_ne_nil i,
      fun c hc => atomChWF_of_digit (int_toString_chars i c hc)⟩
  | num r =>
    rw [renderC]; rw [litWF] at hw
    have := numWF_iff.1 hw
    exact ⟨this.1, this.2.1⟩
  | str s => cases hk
  | tuple xs => cases hk
  | list xs => cases hk
  | dict kvs => cases hk

theorem rc_head (a : Lit) (hw : litWF a = true) : Head cls Delim (kind a) (renderC a) := by
  by_cases hk : kind a = 0
  · obtain ⟨h1, h2⟩ := atom_chars a hk hw
    obtain ⟨c, r, hcr⟩ := List.exists_cons_of_ne_nil h1
    have hc := atomChWF_head (h2 c (hcr ▸ List.mem_cons_self))
    exact ⟨c, r, hcr, hk ▸ hc.1, hc.2⟩
  · cases a with
    | int i => exact absurd rfl hk
    | num r => exact absurd rfl hk
    | str s => exact ⟨_, _, rfl, rfl, by decide⟩
    | tuple xs => exact ⟨_, _, rfl, rfl, by decide⟩
    | list xs => exact ⟨_, _, rfl, rfl, by decide⟩
    | dict kvs => exact ⟨_, _, rfl, rfl, by decide⟩

theorem kind_eq (a b : Lit) (ha : litWF a = true) (hb : litWF b = true) (s t : List Char)
    (h : renderC a ++ s = renderC b ++ t) : kind a = kind b :=
  (rc_head a ha).kind_eq (rc_head b hb) h

theorem atom_inj (a b : Lit) (ha : kind a = 0) (hb : kind b = 0) (wa : litWF a = true)
    (wb : litWF b = true) (h : renderC a = renderC b) : a = b := by
  cases a <;> cases ha <;> cases b <;> cases hb
  all_goals simp only [renderC] at h
  -- int/int, int/num, num/int, num/num: a `numWF` atom has a character that no integer text has
  · rw [int_toString_inj (String.toList_inj.1 h)]
  · rename_i i r
    rw [litWF] at wb
    obtain ⟨c, hc, hn⟩ := (numWF_iff.1 wb).2.2
    exact absurd (int_toString_chars i c (h ▸ hc)) hn
  · rename_i r i
    rw [litWF] at wa
    obtain ⟨c, hc, hn⟩ := (numWF_iff.1 wa).2.2
    exact absurd (int_toString_chars i c (h ▸ hc)) hn
  · rw [String.toList_inj.1 h]

theorem quoted_append_inj {k k' : String} (hk : safeStr k = true) (hk' : safeStr k' = true)
    {s t : List Char} (h : quoted k ++ s = quoted k' ++ t) : k = k' ∧ s = t := by
  have := quote_unique (fun hc => inStrOK_ne_quote (safeStr_iff.1 hk _ hc) rfl)
    (fun hc => inStrOK_ne_quote (safeStr_iff.1 hk' _ hc) rfl) h
  exact ⟨String.toList_inj.1 this.1, this.2⟩

theorem prefixFree_of_flat (a b : Lit) (hab : kind a ≤ 1) (wa : litWF a = true) (wb : litWF b = true) :
    PrefixFree renderC (Tail Delim) a b := by
  intro s t hs ht h
  have hk := kind_eq a b wa wb s t h
  rcases (by omega : kind a = 0 ∨ kind a = 1) with h0 | h1
  · have hb0 : kind b = 0 := hk ▸ h0
    have na : ∀ c ∈ renderC a, ¬ Delim c := fun c hc =>
      (atomChWF_head ((atom_chars a h0 wa).2 c hc)).2
    have nb : ∀ c ∈ renderC b, ¬ Delim c := fun c hc =>
      (atomChWF_head ((atom_chars b hb0 wb).2 c hc)).2
    have := split_unique na nb hs ht h
    exact ⟨atom_inj a b h0 hb0 wa wb this.1, this.2⟩
  · obtain ⟨s1, rfl⟩ := str_of_kind h1
    obtain ⟨s2, rfl⟩ := str_of_kind (hk.symm.trans h1)
    rw [litWF] at wa wb
    rw [renderC, renderC] at h
    obtain ⟨rfl, h2⟩ := quoted_append_inj wa wb h
    exact ⟨rfl, h2⟩

/-- what follows the elements of a list or tuple: `]`, `)` or `,)` -/
def Close (s : List Char) : Prop := ∃ r, s = ']' :: r ∨ s = ')' :: r ∨ s = ',' :: ')' :: r

theorem close_tail {s : List Char} (h : Close s) : Tail Delim s := by
  obtain ⟨r, rfl | rfl | rfl⟩ := h <;> exact tail_cons _ (by decide)

theorem close_tupleClose (xs : List Lit) (s : List Char) : Close (tupleClose xs ++ s) := by
  unfold tupleClose; split
  · exact ⟨s, Or.inr (Or.inr rfl)⟩
  · exact ⟨s, Or.inr (Or.inl rfl)⟩

theorem close_ne {s : List Char} (hs : Close s) (y : Lit) (wy : litWF y = true) (z : List Char) :
    s ≠ renderC y ++ z ∧ s ≠ [','] ++ (renderC y ++ z) := by
  have hy := rc_head y wy
  obtain ⟨r0, rfl | rfl | rfl⟩ := hs
  · exact ⟨fun h => hy.ne_cons (by decide) _ _ h.symm, by simp⟩
  · exact ⟨fun h => hy.ne_cons (by decide) _ _ h.symm, by simp⟩
  · exact ⟨fun h => hy.ne_cons (by decide) _ _ h.symm,
      fun h => hy.ne_cons (by decide) _ _ (List.cons.inj h).2.symm⟩

theorem seqWF_iff (xs : List Lit) : seqWF xs = true ↔ ∀ x ∈ xs, litWF x = true := by
  induction xs with
  | nil => simp [seqWF]
  | cons x xs ih => rw [seqWF, Bool.and_eq_true, ih]; simp

theorem kvsWF_iff (ks : List (String × Lit)) :
    kvsWF ks = true ↔ ∀ kv ∈ ks, safeStr kv.1 = true ∧ litWF kv.2 = true := by
  induction ks with
  | nil => simp [kvsWF]
  | cons kv ks ih =>
    obtain ⟨k, v⟩ := kv
    rw [kvsWF, Bool.and_eq_true, Bool.and_eq_true, ih]; simp [and_assoc]

theorem seqC_one (x : Lit) : seqC [x] = renderC x := by rw [seqC]
theorem seqC_cons2 (x y : Lit) (r : List Lit) :
    seqC (x :: y :: r) = renderC x ++ ',' :: seqC (y :: r) := by rw [seqC]
theorem kvsC_one (k : String) (v : Lit) : kvsC [(k, v)] = quoted k ++ ':' :: renderC v := by
  rw [kvsC]
theorem kvsC_cons2 (k : String) (v : Lit) (kv : String × Lit) (r : List (String × Lit)) :
    kvsC ((k, v) :: kv :: r) = quoted k ++ ':' :: (renderC v ++ ',' :: kvsC (kv :: r)) := by
  rw [kvsC]

theorem seqC_eq_sepBy : ∀ xs, seqC xs = sepBy renderC [','] xs
  | [] => by rw [seqC, sepBy]
  | [x] => seqC_one x
  | x :: y :: r => by rw [seqC_cons2, sepBy, seqC_eq_sepBy (y :: r)]; rfl

def itemC (kv : String × Lit) : List Char := quoted kv.1 ++ ':' :: renderC kv.2

theorem kvsC_eq_sepBy : ∀ ks, kvsC ks = sepBy itemC [','] ks
  | [] => by rw [kvsC, sepBy]
  | [(k, v)] => kvsC_one k v
  | (k, v) :: kv :: r => by
    rw [kvsC_cons2, sepBy, kvsC_eq_sepBy (kv :: r), itemC, List.append_assoc]; rfl

theorem seq_prefix (xs ys : List Lit) (wx : ∀ x ∈ xs, litWF x = true)
    (wy : ∀ y ∈ ys, litWF y = true)
    (he : ∀ x ∈ xs, ∀ y ∈ ys, PrefixFree renderC (Tail Delim) x y) :
    PrefixFree seqC Close xs ys := by
  intro s t hs ht h
  rw [seqC_eq_sepBy, seqC_eq_sepBy] at h
  exact sepBy_prefix renderC _ (Tail Delim) Close (fun _ => close_tail)
    (fun _ => tail_cons _ (by decide)) xs ys he
    (fun x hx _ z hc => close_ne hc x (hx.elim (wx x) (wy x)) z) s t hs ht h

theorem kvs_prefix (ks ls : List (String × Lit))
    (wk : ∀ kv ∈ ks, safeStr kv.1 = true ∧ litWF kv.2 = true)
    (wl : ∀ kv ∈ ls, safeStr kv.1 = true ∧ litWF kv.2 = true)
    (he : ∀ kv ∈ ks, ∀ kv' ∈ ls, PrefixFree renderC (Tail Delim) kv.2 kv'.2)
    (s t : List Char) (h : kvsC ks ++ '}' :: s = kvsC ls ++ '}' :: t) : ks = ls ∧ s = t := by
  rw [kvsC_eq_sepBy, kvsC_eq_sepBy] at h
  exact sepBy_prefix_close itemC _ (Tail Delim) '}' (fun _ => tail_cons _ (by decide))
    (fun _ => tail_cons _ (by decide)) ks ls
    (fun kv hkv kv' hkv' u v hu hv e => by
      rw [itemC, itemC, List.append_assoc, List.append_assoc] at e
      obtain ⟨hk, e'⟩ := quoted_append_inj (wk kv hkv).1 (wl kv' hkv').1 e
      obtain ⟨hv', huv⟩ := he kv hkv kv' hkv' u v hu hv (List.cons.inj e').2
      exact ⟨Prod.ext hk hv', huv⟩)
    (fun kv _ _ z => by rw [itemC, quoted]; exact ⟨nofun, nofun⟩) s t h

theorem lit_induction {P : Lit → Prop} (flat : ∀ a, kind a ≤ 1 → P a)
    (tuple : ∀ xs, (∀ x ∈ xs, P x) → P (.tuple xs)) (list : ∀ xs, (∀ x ∈ xs, P x) → P (.list xs))
    (dict : ∀ kvs, (∀ kv ∈ kvs, P kv.2) → P (.dict kvs)) : ∀ a, P a :=
  Lit.rec (motive_1 := P) (motive_2 := fun xs => ∀ x ∈ xs, P x)
    (motive_3 := fun kvs => ∀ kv ∈ kvs, P kv.2) (motive_4 := fun kv => P kv.2)
    (fun _ => flat _ (Nat.zero_le 1)) (fun _ => flat _ (Nat.zero_le 1))
    (fun _ => flat _ (Nat.le_refl 1)) tuple list dict
    nofun (fun _ _ hx hxs => List.forall_mem_cons.2 ⟨hx, hxs⟩)
    nofun (fun _ _ hx hxs => List.forall_mem_cons.2 ⟨hx, hxs⟩) (fun _ _ h => h)

theorem renderC_prefix (a : Lit) : litWF a = true → ∀ b, litWF b = true →
    PrefixFree renderC (Tail Delim) a b := by
  induction a using lit_induction with
  | flat a hk => exact fun wa b wb => prefixFree_of_flat a b hk wa wb
  | tuple xs ih =>
    intro wa b wb s t _ _ h
    obtain ⟨ys, rfl⟩ := tuple_of_kind (kind_eq _ b wa wb s t h).symm
    rw [litWF, seqWF_iff] at wa wb
    simp only [renderC, List.cons_append, List.cons.injEq, true_and, List.append_assoc] at h
    obtain ⟨rfl, h2⟩ := seq_prefix xs ys wa wb
      (fun x hx y hy => ih x hx (wa x hx) y (wb y hy)) _ _
      (close_tupleClose xs s) (close_tupleClose ys t) h
    exact ⟨rfl, List.append_cancel_left h2⟩
  | list xs ih =>
    intro wa b wb s t _ _ h
    obtain ⟨ys, rfl⟩ := list_of_kind (kind_eq _ b wa wb s t h).symm
    rw [litWF, seqWF_iff] at wa wb
    simp only [renderC, List.cons_append, List.cons.injEq, true_and, List.append_assoc,
      List.nil_append] at h
    obtain ⟨rfl, h2⟩ := seq_prefix xs ys wa wb
      (fun x hx y hy => ih x hx (wa x hx) y (wb y hy)) _ _
      ⟨s, Or.inl rfl⟩ ⟨t, Or.inl rfl⟩ h
    exact ⟨rfl, (List.cons.inj h2).2⟩
  | dict ks ih =>
    intro wa b wb s t _ _ h
    obtain ⟨ls, rfl⟩ := dict_of_kind (kind_eq _ b wa wb s t h).symm
    rw [litWF, kvsWF_iff] at wa wb
    simp only [renderC, List.cons_append, List.cons.injEq, true_and, List.append_assoc,
      List.nil_append] at h
    obtain ⟨rfl, rfl⟩ := kvs_prefix ks ls wa wb
      (fun kv hkv kv' hkv' => ih kv hkv (wa kv hkv).2 kv'.2 (wb kv' hkv').2) s t h
    exact ⟨rfl, rfl⟩

theorem seqC_prefix : (xs : List Lit) → seqWF xs = true → (ys : List Lit) → seqWF ys = true →
    ∀ s t : List Char, Close s → Close t → seqC xs ++ s = seqC ys ++ t → xs = ys ∧ s = t :=
  fun xs wx ys wy =>
    have wx := (seqWF_iff xs).1 wx
    have wy := (seqWF_iff ys).1 wy
    seq_prefix xs ys wx wy fun x hx y hy => renderC_prefix x (wx x hx) y (wy y hy)

theorem kvsC_prefix : (ks : List (String × Lit)) → kvsWF ks = true →
    (ls : List (String × Lit)) → kvsWF ls = true →
    ∀ s t : List Char, kvsC ks ++ '}' :: s = kvsC ls ++ '}' :: t → ks = ls ∧ s = t :=
  fun ks wk ls wl =>
    have wk := (kvsWF_iff ks).1 wk
    have wl := (kvsWF_iff ls).1 wl
    kvs_prefix ks ls wk wl fun kv hkv kv' hkv' =>
      renderC_prefix kv.2 (wk kv hkv).2 kv'.2 (wl kv' hkv').2

mutual
theorem litOK_of_litWF : (l : Lit) → litWF l = true → litOK l = true
  | .int _, _ => rfl
  | .num a, h => List.all_eq_true.2 fun c hc => by
    have := (numWF_iff.1 h).2.1 c hc
    rw [atomChWF, Bool.and_eq_true] at this
    exact this.1
  | .str _, h => h
  | .tuple xs, h => seqOK_of_seqWF xs h
  | .list xs, h => seqOK_of_seqWF xs h
  | .dict kvs, h => kvsOK_of_kvsWF kvs h
theorem seqOK_of_seqWF : (xs : List Lit) → seqWF xs = true → seqOK xs = true
  | [], _ => rfl
  | x :: xs, h => by
    rw [seqWF, Bool.and_eq_true] at h
    rw [seqOK, litOK_of_litWF x h.1, seqOK_of_seqWF xs h.2]; rfl
theorem kvsOK_of_kvsWF : (kvs : List (String × Lit)) → kvsWF kvs = true → kvsOK kvs = true
  | [], _ => rfl
  | (k, v) :: r, h => by
    rw [kvsWF, Bool.and_eq_true, Bool.and_eq_true] at h
    rw [kvsOK, h.1, litOK_of_litWF v h.2.1, kvsOK_of_kvsWF r h.2.2]; rfl
end

theorem renderC_inj (a b : Lit) (wa : litWF a = true) (wb : litWF b = true)
    (h : renderC a = renderC b) : a = b :=
  (renderC_prefix a wa b wb [] [] tail_nil tail_nil (by simpa using h)).1

theorem label_wf (l : Label) (h : l.ok = true) : litWF l.lit = true := by
  cases l <;> exact h

theorem seqWF_map {α : Type} (f : α → Lit) (l : List α) (h : ∀ a ∈ l, litWF (f a) = true) :
    seqWF (l.map f) = true :=
  (seqWF_iff _).2 fun _ hx => let ⟨a, ha, e⟩ := List.mem_map.1 hx; e ▸ h a ha

theorem gameLit_wf (rewards : List Int) (players : List String) (tl : List (List (Label × Nat)))
    (finals : List Nat) (h : gameOK players tl = true) :
    litWF (gameLit rewards players tl finals) = true := by
  simp only [gameOK, Bool.and_eq_true, List.all_eq_true] at h
  obtain ⟨hp, ht⟩ := h
  -- the four keys (`String.toList_ofList` first: evaluating `String.toList` on a literal is quadratic)
  have k1 : safeStr "rewards" = true := by rw [safeStr, String.toList_ofList]; decide +kernel
  have k2 : safeStr "players" = true := by rw [safeStr, String.toList_ofList]; decide +kernel
  have k3 : safeStr "transition_list" = true := by rw [safeStr, String.toList_ofList]; decide +kernel
  have k4 : safeStr "final_states" = true := by rw [safeStr, String.toList_ofList]; decide +kernel
  have v1 : seqWF (rewards.map .int) = true := seqWF_map _ _ fun _ _ => rfl
  have v2 : seqWF (players.map .str) = true := seqWF_map _ _ hp
  have v3 : seqWF (tl.map fun row =>
      Lit.list (row.map fun t => Lit.tuple [t.1.lit, .int (Int.ofNat t.2)])) = true :=
    seqWF_map _ _ fun row hrow => seqWF_map _ _ fun t htr => by
      simp only [litWF, seqWF, Bool.and_true]
      exact label_wf _ (ht row hrow t htr)
  have v4 : seqWF (finals.map fun n => Lit.int (Int.ofNat n)) = true := seqWF_map _ _ fun _ _ => rfl
  simp only [gameLit, litWF, kvsWF, k1, k2, k3, k4, v1, v2, v3, v4, Bool.and_self]

theorem label_lit_inj {a b : Label} (h : a.lit = b.lit) : a = b := by
  cases a <;> cases b <;> simp_all [Label.lit]

theorem gameLit_inj {r r' : List Int} {p p' : List String} {tl tl' : List (List (Label × Nat))}
    {f f' : List Nat} (h : gameLit r p tl f = gameLit r' p' tl' f') :
    r = r' ∧ p = p' ∧ tl = tl' ∧ f = f' := by
  simp only [gameLit, Lit.dict.injEq, List.cons.injEq, Prod.mk.injEq, true_and, and_true,
    Lit.list.injEq] at h
  obtain ⟨h1, h2, h3, h4⟩ := h
  refine ⟨?_, ?_, ?_, ?_⟩
  · exact (List.map_inj_right (fun x y hxy => by simpa using hxy)).1 h1
  · exact (List.map_inj_right (fun x y hxy => by simpa using hxy)).1 h2
  · refine (List.map_inj_right (fun x y hxy => ?_)).1 h3
    simp only [Lit.list.injEq] at hxy
    refine (List.map_inj_right (fun a b hab => ?_)).1 hxy
    simp only [Lit.tuple.injEq, List.cons.injEq, Lit.int.injEq, Int.ofNat_eq_natCast,
      Int.natCast_inj, and_true] at hab
    exact Prod.ext (label_lit_inj hab.1) hab.2
  · refine (List.map_inj_right (fun x y hxy => ?_)).1 h4
    simp only [Lit.int.injEq, Int.ofNat_eq_natCast] at hxy; exact Int.ofNat.inj hxy

end CR.TextLemmas
