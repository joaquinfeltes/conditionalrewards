/-
Helper lemmas for `CR/Props/C02Bound.lean`: "`er` is below a given pre-fixed point of `Brew`" and
"`er` dominates the reward vector and is a sub-solution of `Brew`" are sweep invariants, hence hold
of the reported vector.  Where no conditioned row is empty, `rewards ≤ Brew y ≤ y` for a pre-fixed
point `y ≥ 0`, so the domination asked of `y` is automatic.  With pruning off, on a well-formed
game, no conditioned row is empty PROVIDED the rounding function does not send a reachability value
to a negative integer (`bestStrat` starts its running maximum at the integer 0, so a Player-1 state
all of whose rounded successor values are negative gets the empty strategy and its row is emptied).
-/
import CR.Lemmas.Rew
import CR.Props.C02
import CR.Props.C06

namespace CR.RewBound

open CR CR.VI CR.Rew

variable {K : Type} [Field K] [LinearOrder K] [IsStrictOrderedRing K]

section Run
variable {rnd : K → Int} {thr : K} {fuel : Nat} {prune : Bool} {g : Game K} {out : SolveOut K}

theorem solve_upper (hwf : NodesWF g.owners out.nodes) (H : solve rnd thr fuel prune g = .ok out)
    (y : Array K) (hy : ∀ s < g.owners.size, Brew g.owners g.rewards out.nodes y s ≤ y.getD s 0)
    (hyr : ∀ j, g.rewards.getD j 0 ≤ y.getD j 0) : ∀ j, out.rewards.getD j 0 ≤ y.getD j 0 :=
  solve_er_inv H (fun x => ∀ j, x.getD j 0 ≤ y.getD j 0) hyr fun x s hs hx =>
    getD_set_ind (fun j a => a ≤ y.getD j 0) hx fun _ =>
      (Brew_mono (hwf.rowNonneg s hs) x y fun _ _ => hx _).trans (hy s hs)

end Run

section NoPrune
variable {rnd : K → Int} {thr : K} {fuel : Nat} {g : Game K} {out : SolveOut K}

omit [Field K] [LinearOrder K] [IsStrictOrderedRing K] in
theorem filter_contains_ne_nil (row : List (Tr K)) (l : List String) (hl : l ≠ [])
    (hsub : l.Sublist (row.map (·.act))) : row.filter (fun t => l.contains t.act) ≠ [] := by
  obtain ⟨a, as, rfl⟩ := List.exists_cons_of_ne_nil hl
  have ha : a ∈ row.map (·.act) := hsub.subset List.mem_cons_self
  obtain ⟨t, ht, hta⟩ := List.mem_map.mp ha
  refine List.ne_nil_of_mem (a := t) (List.mem_filter.mpr ⟨ht, ?_⟩)
  simp [hta]

omit [IsStrictOrderedRing K] in
theorem noprune_row_ne_nil_of_exists_nonneg (h : C06.WFull g)
    (H : solve rnd thr fuel false g = .ok out)
    (s : Nat) (hs : s < g.owners.size)
    (hpos : g.owners.getD s .prob = .p1 →
      ∃ t ∈ g.tl.getD s [], 0 ≤ rnd (out.probs.getD t.tgt 0)) :
    out.nodes.getD s [] ≠ [] := by
  obtain ⟨_, hrow⟩ := C02.noprune_nodes H
  have hne := (h.rows s hs).1
  rw [hrow s]
  cases ho : g.owners.getD s .prob with
  | prob => exact hne
  | p2 => exact hne
  | p1 =>
    simp only
    rw [reachStrat_p1 H ho]
    refine filter_contains_ne_nil _ _ ?_ (bestStrat_sublist rnd out.probs _)
    intro hnil
    obtain ⟨t, ht, h0⟩ := hpos ho
    have := (bestStrat_eq_nil_iff rnd out.probs _).mp hnil t ht
    omega

theorem noprune_row_ne_nil (h : C06.WFull g) (hrnd : ∀ x : K, 0 ≤ x → 0 ≤ rnd x)
    (H : solve rnd thr fuel false g = .ok out) :
    ∀ s < g.owners.size, out.nodes.getD s [] ≠ [] := by
  intro s hs
  refine noprune_row_ne_nil_of_exists_nonneg h H s hs (fun _ => ?_)
  obtain ⟨⟨ro, hro, hprobs, _⟩, _⟩ := C02.rew_result H
  obtain ⟨t, ts, hrow⟩ := List.exists_cons_of_ne_nil (h.rows s hs).1
  refine ⟨t, by rw [hrow]; exact List.mem_cons_self, hrnd _ ?_⟩
  rw [hprobs]
  exact (C01.reach_range h.wf hro _).1

end NoPrune

section NoEmptied
variable {rnd : K → Int} {thr : K} {fuel : Nat} {prune : Bool} {g : Game K} {out : SolveOut K}

theorem upper_of_rows_ne_nil (hwf : NodesWF g.owners out.nodes)
    (H : solve rnd thr fuel prune g = .ok out)
    (hne : ∀ s < g.owners.size, out.nodes.getD s [] ≠ [])
    (y : Array K) (hsize : y.size = g.owners.size) (hy0 : ∀ s < g.owners.size, 0 ≤ y.getD s 0)
    (hy : ∀ s < g.owners.size, Brew g.owners g.rewards out.nodes y s ≤ y.getD s 0) :
    ∀ j, out.rewards.getD j 0 ≤ y.getD j 0 := by
  refine solve_upper hwf H y hy
    (getD_forall₂ (· ≤ ·) le_rfl (init_sized H).1 hsize fun s hs => ?_)
  exact le_trans (le_Brew_of_ne_nil (hwf.rowNonneg s hs) (hne s hs) y fun _ _ =>
    getD_forall (0 ≤ ·) le_rfl (hsize ▸ hy0) _) (hy s hs)

theorem subsol_of_rows_ne_nil (hwf : NodesWF g.owners out.nodes)
    (H : solve rnd thr fuel prune g = .ok out)
    (hne : ∀ s < g.owners.size, out.nodes.getD s [] ≠ []) :
    (∀ j, g.rewards.getD j 0 ≤ out.rewards.getD j 0) ∧
      ∀ s < g.owners.size, out.rewards.getD s 0 ≤
        Brew g.owners g.rewards out.nodes out.rewards s := by
  refine solve_er_inv H (fun x => (∀ j, g.rewards.getD j 0 ≤ x.getD j 0) ∧
      ∀ s < g.owners.size, x.getD s 0 ≤ Brew g.owners g.rewards out.nodes x s)
    ⟨fun _ => le_rfl, fun s hs => le_Brew_of_ne_nil (hwf.rowNonneg s hs) (hne s hs) g.rewards
      fun _ _ => (solve_checked H).1 _⟩ fun x s hs ⟨hx1, hx2⟩ => ?_
  have := subSol_write (F := Brew g.owners g.rewards out.nodes) (D := (· < g.owners.size))
    (fun j hj x y hxy => Brew_mono (hwf.rowNonneg j hj) x y fun _ _ => hxy _) x s (fun _ => hs) hx2
  exact ⟨fun j => le_trans (hx1 j) (this.1 j), this.2⟩

end NoEmptied

end CR.RewBound
