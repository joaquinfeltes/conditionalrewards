/-
Vocabulary for `CR/Props/C02Spec.lean`: the conditioned game of the specification as an array of
rows (`specNodes`, rows `condRow`) and the game of the unpruned run (`stratNodes`, rows
`stratRow`), with their size and row lemmas.
-/
import CR.Lemmas.Prune

namespace CR.C02

open CR

section Vocabulary
variable {α : Type} [Add α] [Sub α] [Div α] [BEq α] [OfNat α 0] [OfNat α 1]

/-- the conditioned game of the specification: one row `condRow g strat reach s` per state -/
def specNodes (g : Game α) (strat : Array Strat) (reach : Array α) : Array (List (Tr α)) :=
  Array.ofFn (n := g.owners.size) (fun s => condRow g strat reach s.val)

/-- the row of state `s` when only Player 1 is restricted to its reachability strategy -/
def stratRow (g : Game α) (strat : Array Strat) (s : Nat) : List (Tr α) :=
  match g.owners.getD s .prob with
  | .p1 => (g.tl.getD s []).filter (fun t => ((strat.getD s none).getD []).contains t.act)
  | _ => g.tl.getD s []

/-- the game of the unpruned run: one row `stratRow g strat s` per state -/
def stratNodes (g : Game α) (strat : Array Strat) : Array (List (Tr α)) :=
  Array.ofFn (n := g.owners.size) (fun s => stratRow g strat s.val)

omit [Sub α] [OfNat α 1] in
theorem specNodes_size (g : Game α) (strat : Array Strat) (reach : Array α) :
    (specNodes g strat reach).size = g.owners.size := by
  simp [specNodes]

omit [Sub α] [OfNat α 1] in
theorem specNodes_getD (g : Game α) (strat : Array Strat) (reach : Array α) {s : Nat}
    (hs : s < g.owners.size) : (specNodes g strat reach).getD s [] = condRow g strat reach s := by
  simp [specNodes, Array.getD, hs]

omit [Add α] [Sub α] [Div α] [BEq α] [OfNat α 0] [OfNat α 1] in
theorem stratNodes_size (g : Game α) (strat : Array Strat) :
    (stratNodes g strat).size = g.owners.size := by
  simp [stratNodes]

omit [Add α] [Sub α] [Div α] [BEq α] [OfNat α 0] [OfNat α 1] in
theorem stratNodes_getD (g : Game α) (strat : Array Strat) {s : Nat} (hs : s < g.owners.size) :
    (stratNodes g strat).getD s [] = stratRow g strat s := by
  simp [stratNodes, Array.getD, hs]

end Vocabulary

end CR.C02
