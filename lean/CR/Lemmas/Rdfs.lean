/-
Lemmas about `CR/Model/Rdfs.lean`, on which `CR/Props/C07.lean` is built; also consumed by `Tie/Rdfs` and
`Tie/RdfsLoop` (`mem_revCore`, `reverseDfs_lt`, `revCore_eq`, …).  The table lists `u` under `v`
once per transition from `u` to `v` (`revTable_count`); the searches from the final states are one `dfsLoop`
with all of them on the stack (`allFrom_eq_dfsLoop`), which collects what reaches them through the table
(`mem_allFrom_iff`); the output is strictly ascending, hence determined by its members.  `dfsFuel` runs the
search on concrete data.
-/
import CR.Model.Rdfs
import Mathlib.Logic.Relation

namespace CR
namespace RdfsLemmas

/-- one step of the fold in `revTable`, with projections instead of a pattern match -/
def revStep (tab : Array (List Nat)) (p : Nat × Nat) : Array (List Nat) :=
  tab.setIfInBounds p.1 (tab.getD p.1 [] ++ [p.2])

theorem revTable_eq (tl : List (List Nat)) :
    revTable tl = (revCore tl).foldl revStep (Array.replicate tl.length []) := rfl

theorem revCore_eq (tl : List (List Nat)) :
    revCore tl = (tl.zipIdx 0).flatMap (fun p => p.1.map (fun v => (v, p.2))) := rfl

theorem foldl_revStep_size (ps : List (Nat × Nat)) (tab : Array (List Nat)) :
    (ps.foldl revStep tab).size = tab.size := by
  induction ps generalizing tab with
  | nil => rfl
  | cons p ps ih => simp [List.foldl_cons, ih, revStep]

theorem foldl_revStep_getD (ps : List (Nat × Nat)) (tab : Array (List Nat)) (v : Nat) (hv : v < tab.size) :
    (ps.foldl revStep tab).getD v []
      = tab.getD v [] ++ (ps.filter (fun p => p.1 == v)).map (·.2) := by
  induction ps generalizing tab with
  | nil => simp
  | cons p ps ih =>
    have hsz : v < (revStep tab p).size := by simpa [revStep] using hv
    rw [List.foldl_cons, ih _ hsz, List.filter_cons]
    by_cases h1 : p.1 = v
    · subst h1
      simp [revStep, hv]
    · simp [revStep, h1]

theorem count_filter_map_snd (ps : List (Nat × Nat)) (v u : Nat) :
    ((ps.filter (fun p => p.1 == v)).map (·.2)).count u = ps.count (v, u) := by
  induction ps with
  | nil => rfl
  | cons p ps ih =>
    obtain ⟨a, b⟩ := p
    by_cases ha : a = v
    · subst ha
      by_cases hb : b = u <;> simp [ih, hb]
    · simp [ih, ha]

theorem count_zipIdx_flatMap (tl : List (List Nat)) (k v u : Nat) :
    ((tl.zipIdx k).flatMap (fun p => p.1.map (fun v => (v, p.2)))).count (v, u)
      = if k ≤ u then (tl.getD (u - k) []).count v else 0 := by
  induction tl generalizing k with
  | nil => simp
  | cons row rest ih =>
    rw [List.zipIdx_cons, List.flatMap_cons, List.count_append, ih]
    have hrow : (row.map (fun v => (v, k))).count (v, u) = if k = u then row.count v else 0 := by
      induction row with
      | nil => simp
      | cons x xs ihx =>
        simp only [List.map_cons, List.count_cons, ihx]
        by_cases hk : k = u <;> simp [hk]
    simp only [hrow]
    by_cases hk : k = u
    · subst hk
      simp [Nat.not_succ_le_self k]
    · by_cases hlt : k + 1 ≤ u
      · have hle : k ≤ u := Nat.le_of_succ_le hlt
        have hsub : u - k = (u - (k + 1)) + 1 := by omega
        simp [hk, hlt, hle, hsub]
      · have hle : ¬ k ≤ u := fun h => hlt (Nat.lt_of_le_of_ne h hk)
        simp [hk, hlt, hle]

theorem revCore_count (tl : List (List Nat)) (v u : Nat) :
    (revCore tl).count (v, u) = (tl.getD u []).count v := by
  rw [revCore_eq, count_zipIdx_flatMap]; simp

theorem mem_revCore (tl : List (List Nat)) (v u : Nat) : (v, u) ∈ revCore tl ↔ v ∈ tl.getD u [] := by
  rw [← List.count_pos_iff, revCore_count, List.count_pos_iff]

theorem revTable_size (tl : List (List Nat)) : (revTable tl).size = tl.length := by
  rw [revTable_eq, foldl_revStep_size]; simp

/-- no range hypothesis on the targets: an out-of-range target is dropped and touches no other entry -/
theorem revTable_getD_eq (tl : List (List Nat)) (v : Nat) (hv : v < tl.length) :
    (revTable tl).getD v [] = ((revCore tl).filter (fun p => p.1 == v)).map (·.2) := by
  rw [revTable_eq, foldl_revStep_getD _ _ _ (by simpa using hv)]
  simp [hv]

theorem revTable_count (tl : List (List Nat)) (u v : Nat) (hv : v < tl.length) :
    ((revTable tl).getD v []).count u = (tl.getD u []).count v := by
  rw [revTable_getD_eq tl v hv, count_filter_map_snd, revCore_count]

theorem revTable_getD_of_ge (tl : List (List Nat)) (v : Nat) (hv : tl.length ≤ v) :
    (revTable tl).getD v [] = [] := by
  have : ¬ v < (revTable tl).size := by rw [revTable_size]; omega
  simp [Array.getD, this]

theorem edge_of_mem_revTable (tl : List (List Nat)) (u v : Nat)
    (h : u ∈ (revTable tl).getD v []) : v ∈ tl.getD u [] := by
  by_cases hv : v < tl.length
  · rw [← List.count_pos_iff, ← revTable_count tl u v hv, List.count_pos_iff]; exact h
  · rw [revTable_getD_of_ge tl v (by omega)] at h; simp at h

theorem mem_revTable_of_edge (tl : List (List Nat)) (u v : Nat) (hv : v < tl.length)
    (h : v ∈ tl.getD u []) : u ∈ (revTable tl).getD v [] := by
  rw [← List.count_pos_iff, revTable_count tl u v hv, List.count_pos_iff]; exact h

theorem lt_length_of_mem_getD {tl : List (List Nat)} {u v : Nat} (he : v ∈ tl.getD u []) : u < tl.length := by
  refine Nat.lt_of_not_le fun hle => ?_
  rw [List.getD_eq_getElem?_getD, List.getElem?_eq_none hle] at he
  cases he

theorem target_lt_of_edge (tl : List (List Nat)) (h : ∀ row ∈ tl, ∀ v ∈ row, v < tl.length)
    (u v : Nat) (he : v ∈ tl.getD u []) : v < tl.length := by
  have hu := lt_length_of_mem_getD he
  refine h _ ?_ v he
  rw [List.getD_eq_getElem?_getD, List.getElem?_eq_getElem hu]
  exact List.getElem_mem hu

theorem dfsLoop_sound (rev : Array (List Nat)) (P : Nat → Prop)
    (hP : ∀ v, P v → ∀ u ∈ rev.getD v [], P u) (stack acc : List Nat) :
    (∀ s ∈ stack, P s) → (∀ s ∈ acc, P s) → ∀ s ∈ dfsLoop rev stack acc, P s := by
  fun_induction dfsLoop rev stack acc with
  | case1 acc => intro _ ha; exact ha
  | case2 acc s rest hc ih =>
    intro hs ha
    exact ih (fun x hx => hs x (List.mem_cons_of_mem _ hx)) ha
  | case3 acc s rest hc ih =>
    intro hs ha
    have hPs : P s := hs s List.mem_cons_self
    apply ih
    · intro x hx
      rcases List.mem_append.1 hx with hx | hx
      · exact hP s hPs x hx
      · exact hs x (List.mem_cons_of_mem _ hx)
    · intro x hx
      rcases List.mem_cons.1 hx with rfl | hx
      · exact hPs
      · exact ha x hx

/-- the result contains `acc` and `stack`, and is closed under the table except at members of `acc` -/
theorem dfsLoop_complete (rev : Array (List Nat)) (stack acc : List Nat) :
    (∀ s ∈ acc, s ∈ dfsLoop rev stack acc) ∧ (∀ s ∈ stack, s ∈ dfsLoop rev stack acc) ∧
    (∀ v ∈ dfsLoop rev stack acc, v ∉ acc → ∀ u ∈ rev.getD v [], u ∈ dfsLoop rev stack acc) := by
  fun_induction dfsLoop rev stack acc with
  | case1 acc =>
    refine ⟨fun s hs => hs, fun s hs => by simp at hs, fun v hv hna => absurd hv hna⟩
  | case2 acc s rest hc ih =>
    obtain ⟨ih1, ih2, ih3⟩ := ih
    refine ⟨ih1, ?_, ih3⟩
    intro x hx
    rcases List.mem_cons.1 hx with rfl | hx
    · exact ih1 _ (by simpa using hc)
    · exact ih2 x hx
  | case3 acc s rest hc ih =>
    obtain ⟨ih1, ih2, ih3⟩ := ih
    refine ⟨fun x hx => ih1 x (List.mem_cons_of_mem _ hx), ?_, ?_⟩
    · intro x hx
      rcases List.mem_cons.1 hx with rfl | hx
      · exact ih1 _ List.mem_cons_self
      · exact ih2 x (List.mem_append_right _ hx)
    · intro v hv hna u hu
      by_cases hvs : v = s
      · subst hvs
        exact ih2 u (List.mem_append_left _ hu)
      · exact ih3 v hv (by simp [hvs, hna]) u hu

theorem dfsLoop_nodup (rev : Array (List Nat)) (stack acc : List Nat) :
    acc.Nodup → (dfsLoop rev stack acc).Nodup := by
  fun_induction dfsLoop rev stack acc with
  | case1 acc => exact id
  | case2 acc s rest hc ih => exact ih
  | case3 acc s rest hc ih =>
    intro ha
    apply ih
    exact List.nodup_cons.2 ⟨by simpa using hc, ha⟩

theorem dfsLoop_append (rev : Array (List Nat)) (s rest acc : List Nat) :
    dfsLoop rev (s ++ rest) acc = dfsLoop rev rest (dfsLoop rev s acc) := by
  fun_induction dfsLoop rev s acc with
  | case1 acc => rfl
  | case2 acc x xs hc ih => rw [List.cons_append, dfsLoop, if_pos hc, ih]
  | case3 acc x xs hc ih => rw [List.cons_append, dfsLoop, if_neg hc, ← List.append_assoc, ih]

/-- the list called `all` in `reverseDfs`, started from an arbitrary accumulator -/
def allFrom (rev : Array (List Nat)) (finals acc : List Nat) : List Nat :=
  finals.foldl (fun acc f => dfsLoop rev [f] acc) acc

theorem reverseDfs_eq (tl : List (List Nat)) (finals : List Nat) :
    reverseDfs tl finals =
      ((allFrom (revTable tl) finals []).filter (fun s => !finals.contains s)).mergeSort
        (fun a b => a ≤ b) := rfl

theorem allFrom_eq_dfsLoop (rev : Array (List Nat)) (finals acc : List Nat) :
    allFrom rev finals acc = dfsLoop rev finals acc := by
  induction finals generalizing acc with
  | nil => rw [dfsLoop]; rfl
  | cons f fs ih => rw [allFrom, List.foldl_cons, ← allFrom, ih, ← dfsLoop_append]; rfl

theorem mem_of_reflTransGen_of_closed {r : Nat → Nat → Prop} {S : List Nat}
    (hcl : ∀ v ∈ S, ∀ u, r u v → u ∈ S) {s f : Nat} (h : Relation.ReflTransGen r s f)
    (hf : f ∈ S) : s ∈ S := by
  induction h with
  | refl => exact hf
  | tail _ hbc ih => exact ih (hcl _ hf _ hbc)

/-- `u` is listed under `v` in the table: the search sees an edge `u → v` -/
def Listed (rev : Array (List Nat)) (u v : Nat) : Prop := u ∈ rev.getD v []

theorem listed_revTable_iff {tl : List (List Nat)} (h : ∀ row ∈ tl, ∀ v ∈ row, v < tl.length) {u v : Nat} :
    Listed (revTable tl) u v ↔ v ∈ tl.getD u [] :=
  ⟨edge_of_mem_revTable tl u v, fun he => mem_revTable_of_edge tl u v (target_lt_of_edge tl h u v he) he⟩

theorem mem_allFrom_iff (rev : Array (List Nat)) (finals : List Nat) (s : Nat) :
    s ∈ allFrom rev finals [] ↔ ∃ f ∈ finals, Relation.ReflTransGen (Listed rev) s f := by
  rw [allFrom_eq_dfsLoop]
  constructor
  · intro hs
    refine dfsLoop_sound rev (fun s => ∃ f ∈ finals, Relation.ReflTransGen (Listed rev) s f) ?_
      finals [] (fun f hf => ⟨f, hf, Relation.ReflTransGen.refl⟩) (fun x hx => by simp at hx) s hs
    rintro v ⟨f, hf, hvf⟩ u hu
    exact ⟨f, hf, Relation.ReflTransGen.head hu hvf⟩
  · rintro ⟨f, hf, hsf⟩
    obtain ⟨_, h2, h3⟩ := dfsLoop_complete rev finals []
    exact mem_of_reflTransGen_of_closed (r := Listed rev) (fun v hv u he => h3 v hv List.not_mem_nil u he) hsf (h2 f hf)

theorem mem_reverseDfs (tl : List (List Nat)) (finals : List Nat) (s : Nat) :
    s ∈ reverseDfs tl finals ↔ s ∈ allFrom (revTable tl) finals [] ∧ s ∉ finals := by
  rw [reverseDfs_eq]; simp

/-- no hypothesis on `tl`: a non-final member is listed in the table, hence has a row -/
theorem reverseDfs_lt (tl : List (List Nat)) (finals : List Nat) {s : Nat} (hs : s ∈ reverseDfs tl finals) :
    s < tl.length := by
  obtain ⟨hm, hns⟩ := (mem_reverseDfs tl finals s).1 hs
  obtain ⟨f, hf, hr⟩ := (mem_allFrom_iff _ finals s).1 hm
  rcases Relation.ReflTransGen.cases_head hr with rfl | ⟨c, hsc, _⟩
  · exact absurd hf hns
  · exact lt_length_of_mem_getD (edge_of_mem_revTable tl s c hsc)

theorem reverseDfs_nodup (tl : List (List Nat)) (finals : List Nat) :
    (reverseDfs tl finals).Nodup := by
  rw [reverseDfs_eq, allFrom_eq_dfsLoop]
  exact (List.mergeSort_perm _ _).nodup_iff.2 ((dfsLoop_nodup _ _ _ List.nodup_nil).filter _)

theorem pairwise_mergeSort_le (l : List Nat) : (l.mergeSort (fun a b => decide (a ≤ b))).Pairwise (· ≤ ·) := by
  have := List.pairwise_mergeSort (le := fun (a b : Nat) => decide (a ≤ b))
    (by intro a b c; simp; omega) (by intro a b; simp; omega) l
  simpa using this

theorem reverseDfs_sorted_lt (tl : List (List Nat)) (finals : List Nat) :
    (reverseDfs tl finals).Pairwise (· < ·) :=
  ((pairwise_mergeSort_le _).and (reverseDfs_nodup tl finals)).imp
    fun ⟨h1, h2⟩ => Nat.lt_of_le_of_ne h1 h2

theorem eq_of_sorted_lt_of_mem_iff {l₁ l₂ : List Nat} (h₁ : l₁.Pairwise (· < ·))
    (h₂ : l₂.Pairwise (· < ·)) (hm : ∀ s, s ∈ l₁ ↔ s ∈ l₂) : l₁ = l₂ := by
  have n₁ : l₁.Nodup := h₁.imp (fun h => Nat.ne_of_lt h)
  have n₂ : l₂.Nodup := h₂.imp (fun h => Nat.ne_of_lt h)
  have hp : l₁.Perm l₂ := (List.perm_ext_iff_of_nodup n₁ n₂).2 hm
  exact List.Perm.eq_of_pairwise (le := fun a b => a < b)
    (fun a b _ _ hab hba => absurd hab (Nat.lt_asymm hba)) h₁ h₂ hp

/-- what C13's `solve_finals_irrelevant` rests on; no range hypothesis -/
theorem reverseDfs_congr (tl : List (List Nat)) (f f' : List Nat) (hmem : ∀ s, s ∈ f ↔ s ∈ f') :
    reverseDfs tl f = reverseDfs tl f' :=
  eq_of_sorted_lt_of_mem_iff (reverseDfs_sorted_lt tl f) (reverseDfs_sorted_lt tl f') fun s => by
    simp only [mem_reverseDfs, mem_allFrom_iff, hmem]

/-! Running the search on concrete data: `dfsLoop` and `List.mergeSort` are defined by well-founded recursion and
do not reduce in the kernel. -/

/-- `dfsLoop` with a step budget, by structural recursion: the kernel can run it -/
def dfsFuel (rev : Array (List Nat)) : Nat → List Nat → List Nat → Option (List Nat)
  | _, [], acc => some acc
  | 0, _ :: _, _ => none
  | n + 1, s :: rest, acc =>
    if acc.contains s then dfsFuel rev n rest acc else dfsFuel rev n (rev.getD s [] ++ rest) (s :: acc)

theorem dfsLoop_of_fuel {rev : Array (List Nat)} :
    ∀ {n : Nat} {stack acc r : List Nat}, dfsFuel rev n stack acc = some r → dfsLoop rev stack acc = r
  | 0, [], _, _, h | _ + 1, [], _, _, h => by rw [dfsLoop]; exact Option.some.inj h
  | 0, _ :: _, _, _, h => by cases h
  | n + 1, s :: rest, acc, r, h => by
    rw [dfsLoop]
    rw [dfsFuel] at h
    split at h <;> rename_i hc
    · rw [if_pos hc]; exact dfsLoop_of_fuel h
    · rw [if_neg hc]; exact dfsLoop_of_fuel h

theorem allFrom_of_fuel {rev : Array (List Nat)} (n : Nat) {finals acc all : List Nat}
    (h : finals.foldlM (fun acc f => dfsFuel rev n [f] acc) acc = some all) :
    allFrom rev finals acc = all := by
  induction finals generalizing acc with
  | nil => exact Option.some.inj h
  | cons f fs ih =>
    rw [List.foldlM_cons] at h
    obtain ⟨r, hr, h⟩ := Option.bind_eq_some_iff.1 h
    rw [allFrom, List.foldl_cons, dfsLoop_of_fuel hr]
    exact ih h

/-- `reverseDfs` on concrete data: the search ends within the budget with `all`, and `l` is a strictly
ascending arrangement of the non-final members of `all` (the three hypotheses are closed by `decide`) -/
theorem reverseDfs_eq_of {tl : List (List Nat)} {finals all l : List Nat} (n : Nat)
    (h : finals.foldlM (fun acc f => dfsFuel (revTable tl) n [f] acc) [] = some all)
    (hp : (all.filter (fun s => !finals.contains s)).Perm l) (hl : l.Pairwise (· < ·)) :
    reverseDfs tl finals = l := by
  refine eq_of_sorted_lt_of_mem_iff (reverseDfs_sorted_lt tl finals) hl fun s => ?_
  rw [reverseDfs_eq, allFrom_of_fuel n h, List.mem_mergeSort]
  exact hp.mem_iff

end RdfsLemmas
end CR
