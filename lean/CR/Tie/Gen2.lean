/-
Tie theorems, second part, for `roberta_generator.py` and `stochastic_game_from_roborta_board.py` (translations:
CR/Extracted/Gen.lean, CR/Extracted/Manual.lean; model: CR/Model/Gen.lean).  Every theorem holds for all
arguments, with one proviso: `main_file_name_tie` is stated for seed, width, length and maximum reward given as
naturals (the model's `fileName` takes naturals; `check_input` has refused negative ones before `main` builds
the name).
-/
import CR.Tie.Gen
import CR.Extracted.Manual
import CR.Spec.Roborta

namespace CR.Tie
open CR CR.Gen

/-- A cell of `player_one_left_right_transitions` first builds `[Left, Right]` (four cases of the wrap-around),
then picks from it by the arrow (five cases).  This is the second step, for any list `t` that is the model's pair
`pq`, so that the two case analyses are made one after the other. -/
theorem lr_cell (t : List (String × Int)) (pq : Tr Float × Tr Float) (ht : t = [encA pq.1, encA pq.2])
    (mi : Int) (m : Nat) (hm : mi = m) (st : List (List (String × Int))) :
    (if mi = 0 then st ++ [[Py.idx t 0]]
      else if mi = 1 then st ++ [t]
      else if mi = 2 then st ++ [[Py.idx t 1]]
      else if mi = 3 then st ++ [[("Etha", (0 : Int))]]
      else st)
      = st ++ (match m with
          | 0 => some [pq.1]
          | 1 => some [pq.1, pq.2]
          | 2 => some [pq.2]
          | 3 => some [act "Etha" 0]
          | _ => (none : Option (List (Tr Float)))).toList.map (List.map encA) := by
  subst ht
  exact move_cell [pq.1] [pq.1, pq.2] [pq.2] [act "Etha" 0] mi m hm st

theorem player_one_left_right_tie (L W : Nat) (b : Board) (offL offR : Nat) (x y : Int) (hx : x = offL) (hy : y = offR) :
    Ex.Gen.player_one_left_right_transitions L W (encM b.moves) x y
      = (playerOneLeftRight (α := Float) L W b offL offR).map (·.map encA) := by
  subst hx hy
  unfold Ex.Gen.player_one_left_right_transitions playerOneLeftRight
  rw [gridOpt_eq_flatMap]
  refine fold_cells id _ L W _ _ (fun st i _ j hj => ?_) []
  refine lr_cell _ _ ?_ _ (b.mv i j) (idx_mv b i j) st
  simp only [natCast_eq_lit, ne_eq, Int.natCast_inj, natCast_eq_pred hj,
    Int.fmod_eq_emod_of_nonneg _ (Int.natCast_nonneg W)]
  -- code and model now test the same three conditions; each case is rewritten on both sides by name
  -- (`split_ifs` is slow on a goal of this size)
  by_cases h0 : ¬offL = offR
  · rw [if_pos h0, if_pos h0]
    simp [encA, act]
  rw [if_neg h0, if_neg h0]
  by_cases h1 : j = 0
  · rw [if_pos h1, if_pos h1]
    simp [encA, act, natCast_add_pred _ (Nat.ne_zero_of_lt hj)]
  rw [if_neg h1, if_neg h1]
  by_cases h2 : j = W - 1
  · rw [if_pos h2, if_pos h2]
    simp [encA, act, natCast_add_pred _ h1]
  · rw [if_neg h2, if_neg h2]
    simp [encA, act, natCast_add_pred _ h1]

def checkInputMsg : Nat → String
  | 0 => "The seed must be a nonnegative integer"
  | 1 => "The width must be a positive integer"
  | 2 => "The length must be a positive integer"
  | 3 => "The failure probability of the robot must be a float in (0,1)"
  | 4 => "The failure probability of the light must be a float in (0,1)"
  | 5 => "The probability of a tile being loose must be a float in (0,1)"
  | 6 => "The probability of a tile breaking must be a float in (0,1)"
  | 7 => "The maximum reward must be a positive integer"
  | _ => ""

theorem check_input_tie (seed width length : Int) (pr pl plo pt : Float) (mr : Int) :
    Ex.Gen.check_input seed width length pr pl plo pt mr
      = (match checkInput seed width length pr pl plo pt mr with
         | none => Except.ok ()
         | some k => Except.error (checkInputMsg k)) := by
  unfold Ex.Gen.check_input checkInput
  -- the `match` moves into the branches of the chain; the two chains then differ only in how `or` is written
  simp only [apply_ite (fun o : Option Nat => (match o with
    | none => Except.ok () | some k => Except.error (checkInputMsg k) : Except String Unit)),
    Bool.or_eq_true, decide_eq_true_eq]
  rfl

theorem toString_ofNat (n : Nat) : toString (Int.ofNat n) = toString n := rfl
theorem toString_natCast (n : Nat) : toString ((n : Nat) : Int) = toString n := rfl

theorem prob_to_str_tie (p : Float) : Ex.Gen.prob_to_str p = probToStr p := by
  unfold Ex.Gen.prob_to_str probToStr probToNat Py.round
  rfl

theorem main_file_name_tie (seed width length maxReward : Nat) (pr pl pt plo : Float) (fd : Bool) :
    Ex.Gen.main_file_name seed width length maxReward pr pl pt plo fd
      = fileName seed width length maxReward pr pl pt plo fd := by
  unfold Ex.Gen.main_file_name fileName
  simp only [prob_to_str_tie, toString_natCast]

theorem foldl_max_cast (xs : List Nat) (a : Nat) :
    (xs.map Int.ofNat).foldl max (a : Int) = ((xs.foldl max a : Nat) : Int) := by
  rw [List.foldl_map]
  exact List.foldl_hom Int.ofNat fun x y => show max (x : Int) (y : Int) = ((max x y : Nat) : Int) by omega

theorem maxList_cast (xs : List Nat) :
    Py.maxList (xs.map Int.ofNat) = ((xs.foldl max 0 : Nat) : Int) := by
  cases xs with
  | nil => rfl
  | cons x xs =>
    simp only [List.map_cons, Py.maxList, List.foldl_cons, Nat.zero_max]
    exact foldl_max_cast xs x

theorem get_max_from_matrix_tie (m : List (List Nat)) :
    Ex.Gen.get_max_from_matrix (encM m) = (((m.map (fun r => r.foldl max 0)).foldl max 0 : Nat) : Int) := by
  unfold Ex.Gen.get_max_from_matrix encM
  rw [← maxList_cast (m.map _), List.map_map, List.map_map]
  exact congrArg Py.maxList (List.map_congr_left fun r _ => maxList_cast r)

/-- the test `(max_move+1) == 4` of `create_sg_from_board` (the `force_down` suffix) -/
theorem ite_force (k : Nat) (a b : String) :
    (if decide (((k : Nat) : Int) + 1 = 4) = true then a else b) = (if k + 1 = 4 then a else b) := by
  simp only [decide_eq_true_eq, show (((k : Nat) : Int) + 1 = 4) ↔ k + 1 = 4 by omega]

theorem create_sg_from_board_tie (b : Board) (pr pl pt : Float) :
    Ex.Gen.create_sg_from_board (encM b.moves) (encM b.rewards) (encM b.loose) pr pl pt = manualFileName b pr pl pt := by
  unfold Ex.Gen.create_sg_from_board manualFileName
  simp only [prob_to_str_tie, get_max_from_matrix_tie]
  have h1 : Py.len (encM b.moves) = ((b.moves.length : Nat) : Int) := by simp [Py.len, encM]
  have h2 : Py.len (Py.idx (encM b.moves) 0) = (((b.moves.getD 0 []).length : Nat) : Int) := by
    cases b.moves with
    | nil => rfl
    | cons r rs => simp [encM, Py.len]
  rw [h1, h2]
  simp only [toString_natCast]
  rw [ite_force]

/-- `encA` / `encP` inside a whole game's transition list, where the first slot of a tuple is a `Py.Slot` -/
def slotA (t : Tr Float) : Py.Slot × Int := (Py.Slot.act t.act, (t.tgt : Int))
def slotP (t : Tr Float) : Py.Slot × Int := (Py.Slot.prob t.p, (t.tgt : Int))
/-- the `players` entry of an owner -/
def ownerStr : Owner → String
  | .p1 => "Player 1"
  | .p2 => "Player 2"
  | .prob => "Probabilistic"

/-- `encTlA/B/C`: the groups of `gameA/B/C.tl` (CR/Model/Gen.lean), in the same order and with the same
offsets, each encoded with the slot kind of its owner (`slotA` for the player groups, `slotP` for the
probabilistic ones).  That the groups are those of the model is proved for the targets (`encTlA_targets` …);
that the slot kind of every row is that of the row's owner is by reading these definitions against
`gameA/B/C.owners`. -/
def encTlA (L W : Nat) (b : Board) (p : Float) : List (List (Py.Slot × Int)) :=
  let n := L * W
  (playerTwo (α := Float) L W b (1 * n) (2 * n)).map (·.map slotA)
  ++ (playerOneDown (α := Float) L W (3 * n) (some (n * 4 + 1))).map (·.map slotA)
  ++ (playerOneLeftRight (α := Float) L W b (3 * n) (3 * n)).map (·.map slotA)
  ++ (probTileBreak (α := Float) L W p b 0 (n * 4)).map (·.map slotP)
  ++ [[(Py.Slot.prob 1, ((n * 4 : Nat) : Int))], [(Py.Slot.prob 1, ((n * 4 + 1 : Nat) : Int))]]

def encTlB (L W : Nat) (b : Board) (pTile pRobot : Float) : List (List (Py.Slot × Int)) :=
  let n := L * W
  (playerTwo (α := Float) L W b (1 * n) (2 * n)).map (·.map slotA)
  ++ (playerOneDown (α := Float) L W (4 * n) none).map (·.map slotA)
  ++ (playerOneLeftRight (α := Float) L W b (5 * n) (6 * n)).map (·.map slotA)
  ++ (probTileBreak (α := Float) L W pTile b 0 (n * 7)).map (·.map slotP)
  ++ (probRobotDownBreak (α := Float) L W pRobot (3 * n) (n * 7 + 1)).map (·.map slotP)
  ++ (probRobotLeftBreak (α := Float) L W pRobot (3 * n)).map (·.map slotP)
  ++ (probRobotRightBreak (α := Float) L W pRobot (3 * n)).map (·.map slotP)
  ++ [[(Py.Slot.prob 1, ((n * 7 : Nat) : Int))], [(Py.Slot.prob 1, ((n * 7 + 1 : Nat) : Int))]]

def encTlC (L W : Nat) (b : Board) (pTile pRobot pLight : Float) : List (List (Py.Slot × Int)) :=
  let n := L * W
  (playerTwo (α := Float) L W b (8 * n) (9 * n)).map (·.map slotA)
  ++ (playerOneDown (α := Float) L W (5 * n) none).map (·.map slotA)
  ++ (playerOneLeftRight (α := Float) L W b (6 * n) (7 * n)).map (·.map slotA)
  ++ (playerOneDownLeftRight (α := Float) L W b (5 * n) (6 * n) (7 * n)).map (·.map slotA)
  ++ (probTileBreak (α := Float) L W pTile b 0 (n * 10)).map (·.map slotP)
  ++ (probRobotDownBreak (α := Float) L W pRobot (4 * n) (n * 10 + 1)).map (·.map slotP)
  ++ (probRobotLeftBreak (α := Float) L W pRobot (4 * n)).map (·.map slotP)
  ++ (probRobotRightBreak (α := Float) L W pRobot (4 * n)).map (·.map slotP)
  ++ (probLightBreak (α := Float) L W pLight (1 * n) (3 * n)).map (·.map slotP)
  ++ (probLightBreak (α := Float) L W pLight (2 * n) (3 * n)).map (·.map slotP)
  ++ [[(Py.Slot.prob 1, ((n * 10 : Nat) : Int))], [(Py.Slot.prob 1, ((n * 10 + 1 : Nat) : Int))]]

theorem map_act_encA (l : List (List (Tr Float))) :
    List.map (fun c1 => List.map (fun c2 : String × Int => (Py.Slot.act c2.1, c2.2)) c1) (l.map (·.map encA))
      = l.map (·.map slotA) := by
  simp [List.map_map, Function.comp_def, encA, slotA]

theorem map_prob_encP (l : List (List (Tr Float))) :
    List.map (fun c1 => List.map (fun c2 : Float × Int => (Py.Slot.prob c2.1, c2.2)) c1) (l.map (·.map encP))
      = l.map (·.map slotP) := by
  simp [List.map_map, Function.comp_def, encP, slotP]

theorem range_map_const {β : Type} (n : Nat) (s : β) :
    (Py.range (n : Int)).map (fun _ => s) = List.replicate n s := by
  simp [range_natCast, List.map_map, Function.comp_def, List.map_const']

theorem listMul_zero (n k : Nat) :
    Py.listMul (Py.listMul [(0 : Int)] (n : Int)) (k : Int) = List.replicate (n * k) 0 := by
  simp [Py.listMul]
  exact Nat.mul_comm _ _

theorem flat_rewards (m : List (List Nat)) :
    List.flatMap (fun sublist => List.map (fun reward : Int => reward) sublist) (encM m)
      = (m.flatMap id).map Int.ofNat := by
  simp [encM, List.flatMap_def, Function.comp_def]

theorem rewards_col (m : List (List Nat)) (n k : Nat) (x y : Int) (hx : x = n) (hy : y = k) :
    List.flatMap (fun sublist => List.map (fun reward : Int => reward) sublist) (encM m)
        ++ Py.listMul (Py.listMul [(0 : Int)] x) y ++ [0, 0]
      = ((m.flatMap id) ++ List.replicate (n * k) 0 ++ [0, 0]).map Int.ofNat := by
  subst hx hy
  rw [flat_rewards, listMul_zero]
  simp

theorem owners_col (n a c : Nat) (x y z : Int) (hx : x = n) (hy : y = a) (hz : z = c) :
    List.map (fun _ => "Player 2") (Py.range x) ++ List.map (fun _ => "Player 1") (Py.range y)
        ++ List.map (fun _ => "Probabilistic") (Py.range z) ++ ["Probabilistic", "Probabilistic"]
      = (List.replicate n Owner.p2 ++ List.replicate a Owner.p1 ++ List.replicate c Owner.prob
          ++ [Owner.prob, Owner.prob]).map ownerStr := by
  subst hx hy hz
  simp only [range_map_const]
  simp [ownerStr]

theorem write_robot_A_tie (L W : Nat) (b : Board) (p : Float) :
    Ex.Gen.write_robot_A L W (encM b.moves) (encM b.rewards) (encM b.loose) p
      = ((gameA (α := Float) L W b p).rewards.map Int.ofNat, (gameA (α := Float) L W b p).owners.map ownerStr,
         encTlA L W b p, (gameA (α := Float) L W b p).finals.map Int.ofNat) := by
  unfold Ex.Gen.write_robot_A gameA encTlA
  dsimp only
  rw [rewards_col b.rewards (L * W) 3 _ _ (by rfl) (by rfl),
    owners_col (L * W) (L * W * 2) (L * W * 1) _ _ _ (by rfl) (by rfl) (by rfl),
    player_two_tie L W b (1 * (L * W)) (2 * (L * W)) _ _ (by rfl) (by rfl),
    player_one_down_tie L W (3 * (L * W)) (some (L * W * 4 + 1)) (by simp) _ _ (by rfl) (by simp),
    player_one_left_right_tie L W b (3 * (L * W)) (3 * (L * W)) _ _ (by rfl) (by rfl),
    prob_tile_break_tie L W p b 0 (L * W * 4) _ _ (by rfl) (by rfl)]
  simp only [map_act_encA, map_prob_encP]
  -- what is left: the code appends the losing and the winning row one after the other, the model as one list
  -- (and numbers them `↑L * ↑W * 4`, `… + 1`, which reduce to the model's `↑(L * W * 4)`, `↑(L * W * 4 + 1)`)
  rw [List.append_assoc _ [_] [_]]
  rfl

theorem write_robot_B_tie (L W : Nat) (b : Board) (pTile pRobot : Float) :
    Ex.Gen.write_robot_B L W (encM b.moves) (encM b.rewards) (encM b.loose) pTile pRobot
      = ((gameB (α := Float) L W b pTile pRobot).rewards.map Int.ofNat,
         (gameB (α := Float) L W b pTile pRobot).owners.map ownerStr,
         encTlB L W b pTile pRobot, (gameB (α := Float) L W b pTile pRobot).finals.map Int.ofNat) := by
  unfold Ex.Gen.write_robot_B gameB encTlB
  dsimp only
  rw [rewards_col b.rewards (L * W) 6 _ _ (by rfl) (by rfl),
    owners_col (L * W) (L * W * 2) (L * W * 4) _ _ _ (by rfl) (by rfl) (by rfl),
    player_two_tie L W b (1 * (L * W)) (2 * (L * W)) _ _ (by rfl) (by rfl),
    player_one_down_tie L W (4 * (L * W)) none (by simp) _ none (by rfl) rfl,
    player_one_left_right_tie L W b (5 * (L * W)) (6 * (L * W)) _ _ (by rfl) (by rfl),
    prob_tile_break_tie L W pTile b 0 (L * W * 7) _ _ (by rfl) (by rfl),
    prob_robot_down_break_tie L W pRobot (3 * (L * W)) (L * W * 7 + 1) _ _ (by rfl) (by rfl),
    prob_robot_left_break_tie L W pRobot (3 * (L * W)) _ (by rfl),
    prob_robot_right_break_tie L W pRobot (3 * (L * W)) _ (by rfl)]
  simp only [map_act_encA, map_prob_encP]
  rw [List.append_assoc _ [_] [_]]
  rfl

theorem write_robot_C_tie (L W : Nat) (b : Board) (pTile pRobot pLight : Float) :
    Ex.Gen.write_robot_C L W (encM b.moves) (encM b.rewards) (encM b.loose) pTile pRobot pLight
      = ((gameC (α := Float) L W b pTile pRobot pLight).rewards.map Int.ofNat,
         (gameC (α := Float) L W b pTile pRobot pLight).owners.map ownerStr,
         encTlC L W b pTile pRobot pLight, (gameC (α := Float) L W b pTile pRobot pLight).finals.map Int.ofNat) := by
  unfold Ex.Gen.write_robot_C gameC encTlC
  dsimp only
  rw [rewards_col b.rewards (L * W) 9 _ _ (by rfl) (by rfl),
    owners_col (L * W) (L * W * 3) (L * W * 6) _ _ _ (by rfl) (by rfl) (by rfl),
    player_two_tie L W b (8 * (L * W)) (9 * (L * W)) _ _ (by rfl) (by rfl),
    player_one_down_tie L W (5 * (L * W)) none (by simp) _ none (by rfl) rfl,
    player_one_left_right_tie L W b (6 * (L * W)) (7 * (L * W)) _ _ (by rfl) (by rfl),
    player_one_down_left_right_tie L W b (5 * (L * W)) (6 * (L * W)) (7 * (L * W)) _ _ _ (by rfl) (by rfl) (by rfl),
    prob_tile_break_tie L W pTile b 0 (L * W * 10) _ _ (by rfl) (by rfl),
    prob_robot_down_break_tie L W pRobot (4 * (L * W)) (L * W * 10 + 1) _ _ (by rfl) (by rfl),
    prob_robot_left_break_tie L W pRobot (4 * (L * W)) _ (by rfl),
    prob_robot_right_break_tie L W pRobot (4 * (L * W)) _ (by rfl),
    prob_light_break_tie L W pLight (1 * (L * W)) (3 * (L * W)) _ _ (by rfl) (by rfl),
    prob_light_break_tie L W pLight (2 * (L * W)) (3 * (L * W)) _ _ (by rfl) (by rfl)]
  simp only [map_act_encA, map_prob_encP]
  rw [List.append_assoc _ [_] [_]]
  rfl

theorem slotA_snd (l : List (List (Tr Float))) :
    (l.map (·.map slotA)).map (·.map (·.2)) = l.map (·.map (fun t => (t.tgt : Int))) := by
  simp [List.map_map, Function.comp_def, slotA]

theorem slotP_snd (l : List (List (Tr Float))) :
    (l.map (·.map slotP)).map (·.map (·.2)) = l.map (·.map (fun t => (t.tgt : Int))) := by
  simp [List.map_map, Function.comp_def, slotP]

theorem encTlA_targets (L W : Nat) (b : Board) (p : Float) :
    (encTlA L W b p).map (·.map (·.2)) = (gameA (α := Float) L W b p).tl.map (·.map (fun t => (t.tgt : Int))) := by
  unfold encTlA gameA
  simp only [List.map_append, slotA_snd, slotP_snd]
  rfl

theorem encTlB_targets (L W : Nat) (b : Board) (pTile pRobot : Float) :
    (encTlB L W b pTile pRobot).map (·.map (·.2))
      = (gameB (α := Float) L W b pTile pRobot).tl.map (·.map (fun t => (t.tgt : Int))) := by
  unfold encTlB gameB
  simp only [List.map_append, slotA_snd, slotP_snd]
  rfl

theorem encTlC_targets (L W : Nat) (b : Board) (pTile pRobot pLight : Float) :
    (encTlC L W b pTile pRobot pLight).map (·.map (·.2))
      = (gameC (α := Float) L W b pTile pRobot pLight).tl.map (·.map (fun t => (t.tgt : Int))) := by
  unfold encTlC gameC
  simp only [List.map_append, slotA_snd, slotP_snd]
  rfl

section Games
open CR.Roborta

/-- the code's generator of a variant: the tuple `(rewards, players, transition_list, final_states)` returned by
the translated `write_robot_A/B/C`; its components are `.1`, `.2.1`, `.2.2.1`, `.2.2.2` -/
def codeGame (v : Variant) (L W : Nat) (b : Board) (q : Params Float) :
    List Int × List String × List (List (Py.Slot × Int)) × List Int :=
  match v with
  | .A => Ex.Gen.write_robot_A L W (encM b.moves) (encM b.rewards) (encM b.loose) q.pTile
  | .B => Ex.Gen.write_robot_B L W (encM b.moves) (encM b.rewards) (encM b.loose) q.pTile q.pRobot
  | .C => Ex.Gen.write_robot_C L W (encM b.moves) (encM b.rewards) (encM b.loose) q.pTile q.pRobot q.pLight

def encTl (v : Variant) (L W : Nat) (b : Board) (q : Params Float) : List (List (Py.Slot × Int)) :=
  match v with
  | .A => encTlA L W b q.pTile
  | .B => encTlB L W b q.pTile q.pRobot
  | .C => encTlC L W b q.pTile q.pRobot q.pLight

theorem codeGame_tie (v : Variant) (L W : Nat) (b : Board) (q : Params Float) :
    codeGame v L W b q
      = ((genGame v L W b q).rewards.map Int.ofNat, (genGame v L W b q).owners.map ownerStr,
         encTl v L W b q, (genGame v L W b q).finals.map Int.ofNat) := by
  cases v
  · exact write_robot_A_tie L W b q.pTile
  · exact write_robot_B_tie L W b q.pTile q.pRobot
  · exact write_robot_C_tie L W b q.pTile q.pRobot q.pLight

theorem codeGame_targets (v : Variant) (L W : Nat) (b : Board) (q : Params Float) :
    (codeGame v L W b q).2.2.1.map (·.map (·.2))
      = (genGame v L W b q).tl.map (·.map (fun t => (t.tgt : Int))) := by
  rw [codeGame_tie]
  cases v
  · exact encTlA_targets L W b q.pTile
  · exact encTlB_targets L W b q.pTile q.pRobot
  · exact encTlC_targets L W b q.pTile q.pRobot q.pLight

end Games

theorem write_robot_keys :
    Ex.Gen.write_robot_A_keys = ["rewards", "players", "transition_list", "final_states"]
    ∧ Ex.Gen.write_robot_B_keys = ["rewards", "players", "transition_list", "final_states"]
    ∧ Ex.Gen.write_robot_C_keys = ["rewards", "players", "transition_list", "final_states"] :=
  ⟨rfl, rfl, rfl⟩

end CR.Tie
