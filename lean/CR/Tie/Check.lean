/-
Tie theorem for `StochasticGame.check_game`: the mechanical translation (CR/Extracted/Tad.lean) equals the
hand-written model `checkGame` (CR/Model/Solver.lean) on every typed game with non-empty rewards / finals,
modulo the naming of the error (`checkMsg`), under one fact about floats taken as a hypothesis (`hmin`:
Python's `min(rewards) < 0` holds iff some reward is `< 0`; Lean has no order theory for `Float`).
-/
import CR.Tie.Basic
import CR.Extracted.Tad
import CR.Lemmas.Basic

namespace CR.Tie
open CR

/-- the `players` entry of an owner; the same function as `ownerStr` (CR/Tie/Gen2.lean), which the generator's
ties state their results with: the ties of `tad.py` do not import those of the generator -/
def ownerStr' : Owner → String
  | .p1 => "Player 1"
  | .p2 => "Player 2"
  | .prob => "Probabilistic"

/-- the model's rule name ↦ the Python message -/
def checkMsg (rule : String) : String :=
  if rule = "transition list length" then
    "The transition list must have the same number of elements as states in the game."
  else if rule = "reward list length" then
    "The reward list must have the same number of elements as states in the game."
  else if rule = "negative reward" then
    "Rewards must be positive."
  else if rule = "final state out of range" then
    "Final states must be in the range of the number of states."
  else ""

theorem maxList_ge (l : List Int) (hl : l ≠ []) (n : Int) :
    Py.maxList l ≥ n ↔ ∃ x ∈ l, n ≤ x := by
  cases l with
  | nil => exact absurd rfl hl
  | cons a xs =>
    exact foldl_or max (n ≤ ·) (fun a x => by omega) xs a

theorem minList_neg (l : List Int) (hl : l ≠ []) :
    Py.minList l < 0 ↔ ∃ x ∈ l, x < 0 := by
  cases l with
  | nil => exact absurd rfl hl
  | cons a xs =>
    exact foldl_or min (· < 0) (fun a x => by omega) xs a

theorem finals_check (l : List Nat) (hl : l ≠ []) (n : Nat) :
    (Py.maxList (l.map Int.ofNat) ≥ (n : Int) ∨ Py.minList (l.map Int.ofNat) < 0)
      ↔ l.any (fun f => f ≥ n) = true := by
  have hl' : l.map Int.ofNat ≠ [] := by simpa using hl
  rw [maxList_ge _ hl', minList_neg _ hl']
  simp only [List.mem_map, List.any_eq_true, decide_eq_true_eq]
  constructor
  · rintro (⟨x, ⟨y, hy, rfl⟩, hx⟩ | ⟨x, ⟨y, hy, rfl⟩, hx⟩)
    · exact ⟨y, hy, by simpa using hx⟩
    · exact absurd hx (by simp)
  · rintro ⟨y, hy, hx⟩
    exact Or.inl ⟨Int.ofNat y, ⟨y, hy, rfl⟩, by simpa using hx⟩

theorem ownerStr'_mem (o : Owner) : ownerStr' o ∈ (["Player 1", "Player 2", "Probabilistic"] : List String) := by
  cases o <;> simp [ownerStr']

theorem check_game_tie (g : Game Float) (hr : g.rewards.size ≠ 0) (hf : g.finals ≠ [])
    (hmin : (Py.minListF g.rewards.toList < 0) ↔ (g.rewards.any (fun x => x < 0) = true)) :
    Ex.Tad.StochasticGame_check_game g.tl.toList (g.owners.size : Int) g.rewards.toList
        (g.finals.map Int.ofNat) (g.owners.toList.map ownerStr')
      = (match checkGame g with
         | .ok () => Except.ok ()
         | .error (.malformed rule) => Except.error (checkMsg rule)
         | .error _ => Except.ok ()) := by
  have hfe : ¬ (g.finals.isEmpty = true) := fun h => hf (List.isEmpty_iff.1 h)
  have hfin := finals_check g.finals hf g.owners.size
  have hlen : ∀ {β : Type} (a : Array β), Py.len a.toList ≠ (g.owners.size : Int) ↔ a.size ≠ g.owners.size := by
    intro β a
    simp only [Py.len, Array.length_toList, Int.ofNat_eq_natCast]
    omega
  -- the two tests the code does not make (empty rewards / finals) are excluded by `hr`, `hf`
  rw [checkGame_eq, if_neg hr, if_neg hfe]
  unfold Ex.Tad.StochasticGame_check_game
  rw [fold_ok _ _ fun s hs => by
    obtain ⟨o, -, rfl⟩ := List.mem_map.mp hs
    simp only [ownerStr'_mem o, not_true_eq_false, if_false]]
  -- both sides are now the same cascade: push the translation of the outcome through the model's `if`s
  simp only [hlen, hmin, hfin, apply_ite (fun r : Except Err Unit => (match r with
    | .ok () => Except.ok ()
    | .error (.malformed rule) => Except.error (checkMsg rule)
    | .error _ => Except.ok () : Except String Unit))]
  -- the messages: `checkMsg` on the model's four rule names
  simp only [checkMsg, String.reduceEq, ↓reduceIte]

/-- a 2-state game for the two examples below -/
def exGame2 : Game Float :=
  { rewards := #[1, 0], owners := #[.p1, .prob],
    tl := #[[⟨"a", 0, 1⟩], [⟨"", 1, 1⟩]], finals := [1] }

-- the hypotheses of `check_game_tie` hold on it
example : exGame2.rewards.size ≠ 0 ∧ exGame2.finals ≠ [] ∧
    ((Py.minListF exGame2.rewards.toList < 0) ↔ (exGame2.rewards.any (fun x => x < 0) = true)) :=
  ⟨by decide, by decide, by decide +kernel⟩

example : Ex.Tad.StochasticGame_check_game exGame2.tl.toList (exGame2.owners.size : Int)
    exGame2.rewards.toList (exGame2.finals.map Int.ofNat) (exGame2.owners.toList.map ownerStr')
      = Except.ok () := by
  have hc : checkGame exGame2 = .ok () :=
    checkGame_eq_ok.mpr ⟨by decide, by decide, by decide, by decide +kernel, by decide, by decide⟩
  rw [check_game_tie exGame2 (by decide) (by decide) (by decide +kernel), hc]

end CR.Tie
