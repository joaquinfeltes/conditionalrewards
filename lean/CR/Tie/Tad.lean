/-
Tie theorems for the node classes of `tad.py`: the mechanical translation of each method
(CR/Extracted/Tad.lean, regenerated from /repo on every run) equals the hand-written model
(CR/Model/Solver.lean, at `α := Float`) on every argument, with these provisos:
* the strategy methods (`best_strat_*`, `worst_strat_*`, and `p2_rew_tie`, which calls one) are tied under
  `RndAgree`, the only link between Python's `round(x, d)` and the model's scaled integer;
* where Python raises and the translation reads a default instead, the tie carries the hypothesis that
  excludes it: `prob_prune_paths_tie` (the model returns `.ok`: no ZeroDivisionError), `p1_rew_tie` (`stepRew`
  returns `.ok`: no UnboundLocalError), `p2_rew_min_reach_tie` (the strategy list is empty or names an action
  of the row: no IndexError), `p2_rew_tie` (the first successor's expected reward is not NaN: no
  UnboundLocalError).  Counterexamples without them are in the docstrings.
-/
import CR.Tie.Basic
import CR.Extracted.Tad

namespace CR.Tie
open CR

theorem idx_arr (v : Array Float) (n : Nat) : Py.idx v.toList (n : Int) = v.getD n 0 := by
  rw [idx_nat]
  show v.toList.getD n 0 = v.getD n 0
  simp [List.getD_eq_getElem?_getD, Array.getD_eq_getD_getElem?]

/-! A loop over the encoded row is a loop over the row (`List.foldl_map`), its body read through `encP`/`encA` and
`idx_arr`: this is the whole proof wherever the model's loop has the code's state. -/

theorem prob_reach_tie (row : List (Tr Float)) (reach : Array Float) :
    Ex.Tad.ProbabilisticNode_value_iteration_reach (row.map encP) reach.toList
      = row.foldl (fun v t => v + reach.getD t.tgt 0 * t.p) 0 := by
  unfold Ex.Tad.ProbabilisticNode_value_iteration_reach
  simp only [List.foldl_map, encP, idx_arr]

theorem p1_reach_tie (row : List (Tr Float)) (reach : Array Float) :
    Ex.Tad.PlayerOne_value_iteration_reach (row.map encA) reach.toList
      = row.foldl (fun m t => let x := reach.getD t.tgt 0; if x > m then x else m) 0 := by
  unfold Ex.Tad.PlayerOne_value_iteration_reach
  simp only [List.foldl_map, encA, idx_arr]

theorem p2_reach_tie (row : List (Tr Float)) (reach : Array Float) :
    Ex.Tad.PlayerTwo_value_iteration_reach (row.map encA) reach.toList
      = row.foldl (fun m t => let x := reach.getD t.tgt 0; if x < m then x else m) 1 := by
  unfold Ex.Tad.PlayerTwo_value_iteration_reach
  simp only [List.foldl_map, encA, idx_arr]

theorem stepReach_tie (owners : Array Owner) (nodes : Array (List (Tr Float))) (reach : Array Float) (s : Nat) :
    stepReach owners nodes reach s =
      match owners.getD s .prob with
      | .p1 => Ex.Tad.PlayerOne_value_iteration_reach ((nodes.getD s []).map encA) reach.toList
      | .p2 => Ex.Tad.PlayerTwo_value_iteration_reach ((nodes.getD s []).map encA) reach.toList
      | .prob => Ex.Tad.ProbabilisticNode_value_iteration_reach ((nodes.getD s []).map encP) reach.toList := by
  rw [p1_reach_tie, p2_reach_tie, prob_reach_tie]
  rfl

/-- the filter of the two `prune_paths` (`e` is `encA` or `encP`) -/
theorem filter_live_enc {β : Type} (e : Tr Float → β × Int) (he : ∀ t, (e t).2 = (t.tgt : Int))
    (row : List (Tr Float)) (reach : Array Float) :
    List.filter (fun (ns : β × Int) => decide ((Py.idx reach.toList ns.2 == (0 : Float)) = false)) (row.map e)
      = (row.filter (fun t => !(reach.getD t.tgt 0 == 0))).map e :=
  filter_enc _ _ _ (fun t => by rw [he, idx_arr]; cases (reach.getD t.tgt 0 == 0) <;> rfl) row

theorem filter_strat_encA (row : List (Tr Float)) (strat : List String) :
    List.filter (fun (ns : String × Int) => decide (ns.1 ∈ strat)) (row.map encA)
      = (row.filter (fun t => strat.contains t.act)).map encA :=
  filter_enc _ _ _ (fun t => by simp only [encA, List.contains_eq_mem]; exact decide_eq_decide.mpr Iff.rfl) row

theorem p1_prune_paths_tie (row : List (Tr Float)) (reach : Array Float) :
    Ex.Tad.PlayerOne_prune_paths (row.map encA) reach.toList = (prunePathsP1 reach row).map encA := by
  unfold Ex.Tad.PlayerOne_prune_paths prunePathsP1
  dsimp only
  rw [filter_live_enc encA (fun _ => rfl), List.map_id']

theorem p1_prune_reachability_tie (row : List (Tr Float)) (strat : List String) :
    Ex.Tad.PlayerOne_prune_paths_reachability (row.map encA) strat
      = (row.filter (fun t => strat.contains t.act)).map encA := by
  unfold Ex.Tad.PlayerOne_prune_paths_reachability
  dsimp only
  rw [filter_strat_encA, List.map_id']

theorem prob_prune_paths_tie (row : List (Tr Float)) (reach : Array Float) {row' : List (Tr Float)}
    (h : prunePathsProb reach row = .ok row') :
    Ex.Tad.ProbabilisticNode_prune_paths (row.map encP) reach.toList = row'.map encP := by
  unfold Ex.Tad.ProbabilisticNode_prune_paths
  unfold prunePathsProb at h
  dsimp only at h ⊢
  rw [filter_live_enc encP (fun _ => rfl), List.map_id']
  simp only [Py.len, List.length_map, ne_eq, Int.ofNat_eq_natCast, Int.natCast_inj]
  by_cases h1 : (row.filter (fun t => !(reach.getD t.tgt 0 == 0))).length = row.length
  · rw [if_neg (not_not_intro h1)] at h
    cases h
    rw [if_neg (not_not_intro h1)]
  · rw [if_pos h1] at h ⊢
    split at h
    · cases h
    · cases h
      rw [List.map_map, List.map_map, List.map_map, List.foldl_map]
      rfl

/-- the hypothesis of `prob_prune_paths_tie` is satisfiable with a renormalised row -/
example : (prunePathsProb (α := Float) #[0, 0.5] [⟨"", 0.5, 0⟩, ⟨"", 0.5, 1⟩]).toBool = true := by decide +kernel

/-- the only link between Python's `round(x, d)` (a double) and the model's scaled integer: rounded values are
only compared with each other and with the literals 0 and 1, and on those comparisons the two views agree -/
structure RndAgree (rnd2 : Float → Int → Float) (d : Int) (rndI : Float → Int) : Prop where
  lt_iff   : ∀ x y, rnd2 x d < rnd2 y d ↔ rndI x < rndI y
  eq_iff   : ∀ x y, (rnd2 x d == rnd2 y d) = true ↔ rndI x = rndI y
  pos_iff  : ∀ x, (0 : Float) < rnd2 x d ↔ 0 < rndI x
  zero_iff : ∀ x, (rnd2 x d == (0 : Float)) = true ↔ rndI x = 0
  lt_one   : ∀ x, rnd2 x d < (1 : Float) ↔ rndI x < rndI 1
  eq_one   : ∀ x, (rnd2 x d == (1 : Float)) = true ↔ rndI x = rndI 1

/-- simulation of the arg-max (`c` is `>`) and arg-min (`<`) loops started from `m0` (code) and `k0` (model).
Invariant: the two running extremes compare alike, by `c` and by `==`, with every rounded value.  The start values
must (`h0`); later the extremes are the two roundings of one value (`h`).  The right-hand fold is the body of
`bestStrat` / `worstStratFrom` (CR/Model/Solver.lean) spelled out, so that `fold_sim` applies. -/
theorem strat_sim (cF : Float → Float → Prop) [DecidableRel cF] (cI : Int → Int → Prop) [DecidableRel cI]
    (rnd2 : Float → Int → Float) (d : Int) (rndI : Float → Int) (m0 : Float) (k0 : Int)
    (h0 : ∀ x, (cF (rnd2 x d) m0 ↔ cI (rndI x) k0) ∧ ((rnd2 x d == m0) = true ↔ rndI x = k0))
    (h : ∀ y x, (cF (rnd2 x d) (rnd2 y d) ↔ cI (rndI x) (rndI y)) ∧
      ((rnd2 x d == rnd2 y d) = true ↔ rndI x = rndI y))
    (vals : Array Float) (row : List (Tr Float)) :
    (List.foldl (fun (st1 : Float × List String) (it2 : String × Int) =>
        if cF (rnd2 (Py.idx vals.toList it2.2) d) st1.1 then (rnd2 (Py.idx vals.toList it2.2) d, [it2.1])
        else (st1.1, if (rnd2 (Py.idx vals.toList it2.2) d == st1.1) = true then st1.2 ++ [it2.1] else st1.2))
      (m0, []) (row.map encA)).2
    = (row.foldl (fun (acc : Int × List String) t =>
        let v := rndI (vals.getD t.tgt 0)
        if cI v acc.1 then (v, [t.act]) else if v == acc.1 then (acc.1, acc.2 ++ [t.act]) else acc) (k0, [])).2 := by
  let R (m : Float) (k : Int) : Prop :=
    ∀ x, (cF (rnd2 x d) m ↔ cI (rndI x) k) ∧ ((rnd2 x d == m) = true ↔ rndI x = k)
  refine (fold_sim (fun (s : Float × List String) (t : Int × List String) => R s.1 t.1 ∧ s.2 = t.2)
    _ _ encA ?_ row (m0, []) (k0, []) ⟨h0, rfl⟩).2
  rintro ⟨m, l⟩ ⟨k, _⟩ t ⟨hR, rfl⟩
  simp only [encA, idx_arr, (hR _).1, beq_iff_eq (a := rndI _), ← (hR _).2]
  by_cases c1 : cI (rndI (vals.getD t.tgt 0)) k
  · rw [if_pos c1, if_pos c1]
    exact ⟨h _, rfl⟩
  · rw [if_neg c1, if_neg c1]
    split <;> exact ⟨hR, rfl⟩

section
variable {rnd2 : Float → Int → Float} {d : Int} {rndI : Float → Int}

theorem best_strat_reach_tie (h : RndAgree rnd2 d rndI) (vals : Array Float) (row : List (Tr Float)) :
    bestStrat rndI vals row
      = Ex.Tad.PlayerOne_get_best_strategies_reachability rnd2 (row.map encA) vals.toList d :=
  (strat_sim (· > ·) (· > ·) rnd2 d rndI 0 0 (fun x => ⟨h.pos_iff x, h.zero_iff x⟩)
    (fun y x => ⟨h.lt_iff y x, h.eq_iff x y⟩) vals row).symm

theorem best_strat_rew_tie (h : RndAgree rnd2 d rndI) (vals : Array Float) (row : List (Tr Float)) :
    bestStrat rndI vals row
      = Ex.Tad.PlayerOne_get_best_strategies_total_rewards rnd2 (row.map encA) vals.toList d := by
  rw [best_strat_reach_tie h]
  rfl

theorem worst_strat_reach_tie (h : RndAgree rnd2 d rndI) (vals : Array Float) (row : List (Tr Float)) :
    worstStratFrom rndI (rndI 1) vals row
      = Ex.Tad.PlayerTwo_get_worst_strategies_reachability rnd2 (row.map encA) vals.toList d :=
  (strat_sim (· < ·) (· < ·) rnd2 d rndI 1 (rndI 1) (fun x => ⟨h.lt_one x, h.eq_one x⟩)
    (fun y x => ⟨h.lt_iff x y, h.eq_iff x y⟩) vals row).symm

theorem worst_strat_rew_tie (h : RndAgree rnd2 d rndI) (vals : Array Float) (row : List (Tr Float)) :
    worstStratRew rndI vals row
      = Ex.Tad.PlayerTwo_get_worst_strategies_total_rewards rnd2 (row.map encA) vals.toList d := by
  unfold Ex.Tad.PlayerTwo_get_worst_strategies_total_rewards worstStratRew
  cases row with
  | nil => rfl
  | cons t ts =>
    have hl : ¬ (Py.len (List.map encA (t :: ts)) = (0 : Int)) := by
      simp [Py.len]; omega
    -- the loop starts from the rounded value of the first successor
    have h0 : Py.idx vals.toList (Py.idx (List.map encA (t :: ts)) 0).2 = vals.getD t.tgt 0 := by
      simp only [List.map_cons, idx_cons_zero, encA, idx_arr]
    rw [if_neg hl, h0]
    have hlt := fun y x => And.intro (h.lt_iff x y) (h.eq_iff x y)
    exact (strat_sim (· < ·) (· < ·) rnd2 d rndI _ _ (hlt _) hlt vals (t :: ts)).symm

end

theorem prob_rew_fold (er ermr pmr : Array Float) (row : List (Tr Float)) (a b c : Float) :
    List.foldl (fun (st1 : Float × Float × Float) (it2 : Float × Int) =>
        (st1.1 + Py.idx er.toList it2.2 * it2.1, st1.2.1 + Py.idx ermr.toList it2.2 * it2.1,
          st1.2.2 + Py.idx pmr.toList it2.2 * it2.1)) (a, b, c) (row.map encP)
    = (row.foldl (fun acc t => acc + er.getD t.tgt 0 * t.p) a,
       row.foldl (fun acc t => acc + ermr.getD t.tgt 0 * t.p) b,
       row.foldl (fun acc t => acc + pmr.getD t.tgt 0 * t.p) c) := by
  simp only [List.foldl_map, encP, idx_arr]
  induction row generalizing a b c with
  | nil => rfl
  | cons t ts ih => exact ih ..

theorem prob_rew_tie (rndI : Float → Int) (owners : Array Owner) (rewards : Array Float)
    (nodes : Array (List (Tr Float))) (reach : Array Float) (v : RewVecs Float) (s : Nat)
    (ho : owners.getD s .prob = .prob) :
    stepRew rndI owners rewards nodes reach v s
      = .ok (Ex.Tad.ProbabilisticNode_value_iteration_rewards ((nodes.getD s []).map encP) (rewards.getD s 0)
          v.er.toList v.ermr.toList v.pmr.toList) := by
  unfold stepRew Ex.Tad.ProbabilisticNode_value_iteration_rewards
  simp only [ho]
  generalize nodes.getD s [] = row
  generalize rewards.getD s 0 = r
  cases row with
  | nil => rfl
  | cons t ts =>
    rw [if_neg (by simp), prob_rew_fold]
    rfl

/-- The selection loops of `PlayerOne.value_iteration_rewards` (`c` is `≥`) and `PlayerTwo.value_iteration_rewards`
(`≤`): same running extreme, and the code's `ns` is the encoding `w` of what the model holds.  The model holds the
selected successor in `W`: an `Option (Tr Float)`, at first `none`, for Player 1 (`w` reads `none` as the code's
not yet assigned variable), a `Tr Float` for Player 2. -/
theorem sel_sim {W : Type} (c : Float → Float → Prop) [DecidableRel c] (w : W → String × Int) (inj : Tr Float → W)
    (hw : ∀ t, w (inj t) = encA t) (er : Array Float) (row : List (Tr Float)) (m : Float) (ns : String × Int) (a : W)
    (ha : ns = w a) :
    List.foldl (fun (st1 : Float × (String × Int)) (it2 : String × Int) =>
        if c (Py.idx er.toList it2.2) st1.1 then (Py.idx er.toList it2.2, it2) else (st1.1, st1.2)) (m, ns) (row.map encA)
    = ((row.foldl (fun (acc : Float × W) t =>
          if c (er.getD t.tgt 0) acc.1 then (er.getD t.tgt 0, inj t) else acc) (m, a)).1,
       w (row.foldl (fun (acc : Float × W) t =>
          if c (er.getD t.tgt 0) acc.1 then (er.getD t.tgt 0, inj t) else acc) (m, a)).2) := by
  refine fold_sim (fun (s : Float × (String × Int)) (t : Float × W) => s = (t.1, w t.2)) _ _ encA ?_
    row (m, ns) (m, a) (by rw [ha])
  rintro _ ⟨m2, a2⟩ t rfl
  simp only [encA, idx_arr]
  split
  · rw [hw]; rfl
  · rfl

theorem p1_rew_tie (rndI : Float → Int) (owners : Array Owner) (rewards : Array Float)
    (nodes : Array (List (Tr Float))) (reach : Array Float) (v : RewVecs Float) (s : Nat)
    (ho : owners.getD s .prob = .p1) {x : Float × Float × Float}
    (hx : stepRew rndI owners rewards nodes reach v s = .ok x) :
    Ex.Tad.PlayerOne_value_iteration_rewards ((nodes.getD s []).map encA) (rewards.getD s 0)
      v.er.toList v.ermr.toList v.pmr.toList = x := by
  unfold stepRew at hx
  unfold Ex.Tad.PlayerOne_value_iteration_rewards
  dsimp only at hx ⊢
  rw [ho] at hx
  revert hx
  generalize nodes.getD s [] = row
  generalize rewards.getD s 0 = r
  intro hx
  cases row with
  | nil =>
    cases hx
    rfl
  | cons t ts =>
    rw [if_neg (by simp), sel_sim (· ≥ ·) (fun o => (o.map encA).getD default) some (fun _ => rfl) v.er (t :: ts)
      0 default none rfl]
    simp only [List.isEmpty_cons, Bool.false_eq_true, if_false] at hx
    split at hx
    · cases hx
    · rename_i t' hsel
      cases hx
      rw [hsel]
      simp only [Option.map_some, Option.getD_some, encA, idx_arr]

/-- the hypotheses of `p1_rew_tie` are satisfiable on a non-empty row -/
example : (#[Owner.p1].getD 0 .prob = .p1) ∧
    (stepRew (fun _ => 0) #[Owner.p1] #[(1 : Float)] #[[⟨"a", 0, 0⟩]] #[0] ⟨#[1], #[1], #[0]⟩ 0).toBool = true := by
  decide +kernel

theorem min_reach_fold (ermr : Array Float) (strat : List String) (row : List (Tr Float)) (init : Float) :
    List.foldl (fun (st1 : Float) (it2 : String × Int) =>
        if it2.1 ∈ strat then (if Py.idx ermr.toList it2.2 < st1 then Py.idx ermr.toList it2.2 else st1) else st1)
      init (row.map encA)
    = (row.filter (fun t => strat.contains t.act)).foldl
        (fun m t => let x := ermr.getD t.tgt 0; if x < m then x else m) init := by
  simp only [List.foldl_map, List.foldl_filter, encA, idx_arr, List.contains_eq_mem, decide_eq_true_eq]

/-- The hypothesis `hs` is needed: for a non-empty strategy list none of whose actions labels a transition of
the row, Python raises IndexError; the translation's `Py.idx` yields `default` there (value `ermr[0] + reward`)
while the model returns 0.
Counterexample: row = [], reward = 1, ermr = #[5], strat = ["a"]: code 6, model 0. -/
theorem p2_rew_min_reach_tie (row : List (Tr Float)) (r : Float) (ermr : Array Float) (strat : List String)
    (hs : strat = [] ∨ ∃ t ∈ row, t.act ∈ strat) :
    Ex.Tad.PlayerTwo__expected_rewards_min_reach (row.map encA) r ermr.toList strat
      = p2RewMinReach r ermr row strat := by
  unfold Ex.Tad.PlayerTwo__expected_rewards_min_reach p2RewMinReach
  by_cases hst : strat = []
  · subst hst
    have hf : row.filter (fun t => ([] : List String).contains t.act) = [] := by simp
    rw [hf, if_pos (by simp)]
  · have hne : ¬ ¬ (strat ≠ []) := by simpa using hst
    rw [if_neg hne]
    dsimp only
    rw [List.map_id', filter_strat_encA, min_reach_fold]
    obtain ⟨t, htr, hta⟩ := hs.resolve_left hst
    cases hf : row.filter (fun t => strat.contains t.act) with
    | nil =>
      have : t ∈ row.filter (fun t => strat.contains t.act) := by
        simp [List.mem_filter, htr, hta]
      rw [hf] at this
      cases this
    | cons t0 rest =>
      simp only [List.map_cons, idx_cons_zero, encA, idx_arr]

example : ([ "a" ] : List String) = [] ∨ ∃ t ∈ ([⟨"a", 0, 0⟩] : List (Tr Float)), t.act ∈ ["a"] :=
  Or.inr ⟨_, List.mem_cons_self, List.mem_cons_self⟩

/-- every action named by `worstStratFrom` labels a transition of the row (the fold is the body of
`worstStratFrom`, from any start) -/
theorem worst_strat_mem (rnd : Float → Int) (vals : Array Float) (row : List (Tr Float)) :
    ∀ (acc : Int × List String) (a : String),
      a ∈ (row.foldl (fun (acc : Int × List String) t =>
        let v := rnd (vals.getD t.tgt 0)
        if v < acc.1 then (v, [t.act]) else if v == acc.1 then (acc.1, acc.2 ++ [t.act]) else acc) acc).2 →
      a ∈ acc.2 ∨ ∃ t ∈ row, t.act = a := by
  induction row with
  | nil => exact fun acc a h => Or.inl h
  | cons t ts ih =>
    intro acc a h
    have ht : a ∈ [t.act] → ∃ t' ∈ t :: ts, t'.act = a := fun h =>
      ⟨t, List.mem_cons_self, (List.mem_singleton.mp h).symm⟩
    rcases ih _ a h with h1 | ⟨t', ht', e⟩
    · -- one iteration restarts the list at `t.act`, appends `t.act` to it, or keeps it
      dsimp only at h1
      split at h1
      · exact Or.inr (ht h1)
      · split at h1
        · exact (List.mem_append.mp h1).imp_right ht
        · exact Or.inl h1
    · exact Or.inr ⟨t', List.mem_cons_of_mem _ ht', e⟩

/-- The hypothesis `hfin` (the expected reward of the first successor is not NaN, written `x ≤ x`) is needed:
the code starts from `min_rewards = er[first]` with `min_next_state` unassigned, and `x ≤ min_rewards` never
holds when `er[first]` is NaN, so Python raises UnboundLocalError (the translation reads `default`, i.e. state 0)
while the model starts from the first successor.
Counterexample: row = [("a", 1)], er = #[0, NaN], pmr = #[0.3, 0.7]: model third component 0.7, code 0.3. -/
theorem p2_rew_tie {rnd2 : Float → Int → Float} {rndI : Float → Int} (h : RndAgree rnd2 6 rndI)
    (owners : Array Owner) (rewards : Array Float) (nodes : Array (List (Tr Float))) (reach : Array Float)
    (v : RewVecs Float) (s : Nat) (ho : owners.getD s .prob = .p2)
    (hfin : ∀ t0, (nodes.getD s []).head? = some t0 → v.er.getD t0.tgt 0 ≤ v.er.getD t0.tgt 0) :
    stepRew rndI owners rewards nodes reach v s
      = .ok (Ex.Tad.PlayerTwo_value_iteration_rewards rnd2 ((nodes.getD s []).map encA) (rewards.getD s 0)
          reach.toList v.er.toList v.ermr.toList v.pmr.toList) := by
  unfold stepRew Ex.Tad.PlayerTwo_value_iteration_rewards
  dsimp only
  rw [ho]
  revert hfin
  generalize nodes.getD s [] = row
  generalize rewards.getD s 0 = r
  intro hfin
  cases row with
  | nil => rfl
  | cons t ts =>
    have hne : ¬ ¬ (List.map encA (t :: ts) ≠ []) := by simp
    have h0 := hfin t rfl
    rw [if_neg hne, ← worst_strat_reach_tie h, p2_rew_min_reach_tie]
    · simp only [List.isEmpty_cons, Bool.false_eq_true, if_false, List.map_cons, List.foldl_cons, idx_cons_zero]
      simp only [encA, idx_arr, h0, if_true]
      rw [show ((t.act, (t.tgt : Int)) : String × Int) = encA t from rfl,
        sel_sim (· ≤ ·) encA (fun t => t) (fun _ => rfl) v.er ts _ _ t rfl]
      simp only [encA, idx_arr]
    · by_cases hst : worstStratFrom rndI (rndI 1) reach (t :: ts) = []
      · exact Or.inl hst
      · obtain ⟨a, ha⟩ := List.exists_mem_of_ne_nil _ hst
        obtain ⟨t', ht', e⟩ :=
          (worst_strat_mem rndI reach (t :: ts) (rndI 1, []) a ha).resolve_left List.not_mem_nil
        exact Or.inr ⟨t', ht', e ▸ ha⟩

/-- the extra hypothesis of `p2_rew_tie` is satisfiable on a non-empty row -/
example : ∀ t0, ([⟨"a", 0, 0⟩] : List (Tr Float)).head? = some t0 →
    (#[(1 : Float)]).getD t0.tgt 0 ≤ (#[(1 : Float)]).getD t0.tgt 0 := by
  intro t0 h
  cases h
  decide +kernel

end CR.Tie
