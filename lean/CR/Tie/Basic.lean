/-
What the ties share.  `harness/py2lean.py` turns a Python `for` into a `List.foldl` over `Py.range`, indexing into
`Py.idx`, numbers into `Int`; the model is written with `grid` / `gridOpt`, `getD` and `Nat`.
-/
import CR.Extracted.Prelude
import CR.Lemmas.Grid
import Mathlib.Tactic.SplitIfs

namespace CR.Tie
open CR CR.Gen

theorem foldl_inv {σ γ : Type} (P : σ → Prop) (f : σ → γ → σ) (hf : ∀ s x, P s → P (f s x)) (l : List γ)
    (s : σ) (hs : P s) : P (l.foldl f s) := by
  induction l generalizing s with
  | nil => exact hs
  | cons x l ih => exact ih _ (hf s x hs)

/-- used with `max` and `P = (n ≤ ·)`, with `min` and `P = (· < 0)` -/
theorem foldl_or {α : Type} (op : α → α → α) (P : α → Prop) (h : ∀ a x, P (op a x) ↔ (P a ∨ P x))
    (xs : List α) (a : α) : P (xs.foldl op a) ↔ ∃ x ∈ a :: xs, P x := by
  induction xs generalizing a with
  | nil => simp
  | cons x xs ih => simp only [List.foldl_cons, ih, h, List.mem_cons, exists_eq_or_imp, or_assoc]

/-- the translation of `for x in l: if …: raise …` is a fold in `Except` -/
theorem fold_ok {γ : Type} (f : Except String Unit → γ → Except String Unit) (l : List γ)
    (h : ∀ s ∈ l, f (Except.ok ()) s = Except.ok ()) : l.foldl f (Except.ok ()) = Except.ok () := by
  induction l with
  | nil => rfl
  | cons x xs ih =>
    rw [List.foldl_cons, h x (by simp)]
    exact ih (fun s hs => h s (by simp [hs]))

theorem fold_sim {σ τ A B : Type} (R : σ → τ → Prop) (F : σ → A → σ) (G : τ → B → τ) (e : B → A)
    (hstep : ∀ s t b, R s t → R (F s (e b)) (G t b)) :
    ∀ (row : List B) (s : σ) (t : τ), R s t → R (List.foldl F s (row.map e)) (List.foldl G t row) := by
  intro row
  induction row with
  | nil => intro s t h; exact h
  | cons b bs ih =>
    intro s t h
    simp only [List.map_cons, List.foldl_cons]
    exact ih _ _ (hstep s t b h)

/-- `π` is a view of the loop's state: the list being built (the state may carry more) -/
theorem foldl_view {σ β γ : Type} (π : σ → List β) (F : σ → γ → σ) (c : γ → List β) (l : List γ)
    (hF : ∀ st, ∀ x ∈ l, π (F st x) = π st ++ c x) (st : σ) :
    π (l.foldl F st) = π st ++ l.flatMap c := by
  induction l generalizing st with
  | nil => simp
  | cons x xs ih =>
    rw [List.foldl_cons, ih (fun st y hy => hF st y (List.mem_cons_of_mem _ hy)), hF st x List.mem_cons_self,
      List.flatMap_cons, List.append_assoc]

theorem foldl_flat {β γ : Type} (g : γ → List β) (l : List γ) (init : List β) :
    List.foldl (fun st x => st ++ g x) init l = init ++ l.flatMap g :=
  foldl_view id _ g l (fun _ _ _ => rfl) init

theorem foldl_append_singleton {β γ : Type} (f : γ → β) (l : List γ) (init : List β) :
    List.foldl (fun st x => st ++ [f x]) init l = init ++ l.map f := by
  rw [List.map_eq_flatMap]
  exact foldl_flat (fun x => [f x]) l init

theorem range_natCast (n : Nat) : Py.range (n : Int) = (List.range n).map Int.ofNat := rfl

theorem mem_pyRange_iff (n : Nat) (k : Int) : k ∈ Py.range (n : Int) ↔ (0 ≤ k ∧ k < n) := by
  simp only [range_natCast, List.mem_map, List.mem_range, Int.ofNat_eq_natCast]
  exact ⟨fun ⟨a, ha, e⟩ => by omega, fun ⟨h0, h1⟩ => ⟨k.toNat, by omega, by omega⟩⟩

theorem foldl_range_view {σ β : Type} (π : σ → List β) (n : Nat) (F : σ → Int → σ) (c : Nat → List β)
    (hF : ∀ st, ∀ i < n, π (F st i) = π st ++ c i) (st : σ) :
    π (List.foldl F st (Py.range n)) = π st ++ (List.range n).flatMap c := by
  rw [range_natCast, foldl_view π F (fun x => c x.toNat) _ ?_ st, List.flatMap_map]
  · rfl
  · intro st x hx
    obtain ⟨i, hi, rfl⟩ := List.mem_map.1 hx
    exact hF st i (List.mem_range.1 hi)

/-- the common form of `grid` (one value per cell) and `gridOpt` (at most one) -/
def cells {β : Type} (L W : Nat) (c : Nat → Nat → List β) : List β :=
  (List.range L).flatMap fun i => (List.range W).flatMap fun j => c i j

theorem grid_eq_cells {β : Type} (L W : Nat) (f : Nat → Nat → β) :
    grid L W f = cells L W fun i j => [f i j] := by
  simp only [grid, cells, List.map_eq_flatMap]

/-- the shape of every transition builder -/
theorem fold_cells {σ β γ : Type} (π : σ → List β) (enc : γ → β) (L W : Nat) (F : σ → Int → Int → σ)
    (c : Nat → Nat → List γ)
    (hF : ∀ st, ∀ i < L, ∀ j < W, π (F st i j) = π st ++ (c i j).map enc) (st0 : σ) :
    π (List.foldl (fun st i => List.foldl (fun st j => F st i j) st (Py.range W)) st0 (Py.range L))
      = π st0 ++ (cells L W c).map enc := by
  rw [foldl_range_view π L _ (fun i => (List.range W).flatMap fun j => (c i j).map enc)
    (fun st i hi => foldl_range_view π W _ _ (fun st j hj => hF st i hi j hj) st)]
  simp only [cells, List.map_flatMap]

/-- two nested `for … in range(…)` loops that append one value per inner iteration build `grid` -/
theorem fold_grid {β : Type} (L W : Nat) (f : Int → Int → β) (init : List β) :
    List.foldl (fun st i => List.foldl (fun st j => st ++ [f i j]) st (Py.range W)) init (Py.range L)
      = init ++ grid L W (fun i j => f i j) := by
  rw [grid_eq_cells, ← List.map_id (cells L W _)]
  exact fold_cells id id L W (fun st i j => st ++ [f i j]) _ (fun _ _ _ _ _ => rfl) init

theorem grid_map {β γ : Type} (L W : Nat) (f : Nat → Nat → β) (g : β → γ) :
    (grid L W f).map g = grid L W (fun i j => g (f i j)) :=
  GridLemmas.map_grid g L W f

theorem flatMap_grid_congr {β : Type} (L W : Nat) (f g : Nat → Nat → List β)
    (h : ∀ i < L, ∀ j < W, f i j = g i j) :
    (List.range L).flatMap (fun i => (List.range W).flatMap (fun j => f i j))
      = (List.range L).flatMap (fun i => (List.range W).flatMap (fun j => g i j)) := by
  simp only [List.flatMap_def]
  exact congrArg _ (List.map_congr_left fun i hi => congrArg _ (List.map_congr_left fun j hj =>
    h i (List.mem_range.1 hi) j (List.mem_range.1 hj)))

theorem grid_congr {β : Type} (L W : Nat) (f g : Nat → Nat → β)
    (h : ∀ i < L, ∀ j < W, f i j = g i j) : grid L W f = grid L W g :=
  GridLemmas.grid_congr h

/-- nested loops whose inner body appends a (possibly empty) list -/
theorem fold_gridL {β : Type} (L W : Nat) (F : List β → Int → Int → List β) (g : Int → Int → List β)
    (hF : ∀ st i j, F st i j = st ++ g i j) (init : List β) :
    List.foldl (fun st i => List.foldl (fun st j => F st i j) st (Py.range W)) init (Py.range L)
      = init ++ (List.range L).flatMap (fun i => (List.range W).flatMap (fun j => g (i : Nat) (j : Nat))) := by
  rw [← List.map_id (List.flatMap _ _)]
  exact fold_cells id id L W F (fun i j => g i j) (fun st i _ j _ => by rw [List.map_id]; exact hF st i j) init

/-- nested loops over a pair state whose first component is overwritten by a value `h i j` that is also
appended to the second (the shape of `player_two_transitions`: `transition` is carried by the loops) -/
theorem fold_grid_pair {β : Type} (L W : Nat) (F : β × List β → Int → Int → β × List β) (h : Int → Int → β)
    (hF : ∀ st i j, F st i j = (h i j, st.2 ++ [h i j])) (st0 : β × List β) :
    (List.foldl (fun st i => List.foldl (fun st j => F st i j) st (Py.range W)) st0 (Py.range L)).2
      = st0.2 ++ grid L W (fun i j => h i j) := by
  rw [grid_eq_cells, ← List.map_id (cells L W _)]
  exact fold_cells Prod.snd id L W F _ (fun st i _ j _ => by rw [hF]; rfl) st0

theorem gridOpt_eq_flatMap {β : Type} (L W : Nat) (f : Nat → Nat → Option β) :
    gridOpt L W f = (List.range L).flatMap (fun i => (List.range W).flatMap (fun j => (f i j).toList)) := by
  unfold gridOpt
  congr 1
  funext i
  induction (List.range W) with
  | nil => simp
  | cons x xs ih => cases hx : f i x <;> simp [hx, ih]

/-- a board matrix as the code sees it -/
def encM (m : List (List Nat)) : List (List Int) := m.map (·.map Int.ofNat)

theorem idx_nat {β : Type} [Inhabited β] (xs : List β) (i : Nat) : Py.idx xs (i : Int) = xs.getD i default := by
  unfold Py.idx
  have : ¬ ((i : Int) < 0) := by omega
  simp [this]

theorem toList_eq_map_range {γ : Type} (a : Array (List γ)) : a.toList = (List.range a.size).map (a.getD · []) := by
  apply List.ext_getElem <;> simp
  intro i p; simp [p]

theorem idx_encM (m : List (List Nat)) (i j : Nat) :
    Py.idx (Py.idx (encM m) (i : Int)) (j : Int) = (((m.getD i []).getD j 0 : Nat) : Int) := by
  rw [idx_nat, idx_nat]
  simp only [encM, List.getD_eq_getElem?_getD, List.getElem?_map]
  -- a row or an entry out of range reads as `default`, which is `[]` resp. `0` on both sides
  cases m[i]? with
  | none => rfl
  | some r =>
    simp only [Option.map_some, Option.getD_some, List.getElem?_map]
    cases r[j]? <;> rfl

@[simp] theorem idx_cons_zero {β : Type} [Inhabited β] (a : β) (l : List β) : Py.idx (a :: l) 0 = a := by
  simp [Py.idx]
@[simp] theorem idx_cons_one {β : Type} [Inhabited β] (a b : β) (l : List β) : Py.idx (a :: b :: l) 1 = b := by
  simp [Py.idx]
@[simp] theorem idx_cons_two {β : Type} [Inhabited β] (a b c : β) (l : List β) :
    Py.idx (a :: b :: c :: l) 2 = c := by
  simp [Py.idx]

/-- the code compares board entries with integer literals (`no_index`: `simp` indexes a numeral as an atom and
would never try the lemma on `OfNat.ofNat k` with a variable `k`) -/
theorem natCast_eq_lit (a k : Nat) :
    ((a : Int) = (no_index (OfNat.ofNat k) : Int)) ↔ a = (no_index (OfNat.ofNat k) : Nat) :=
  Int.ofNat_inj

/-- the code's tests `i < length - 1` and `j == width - 1`, in integers, against the model's in naturals (the
second needs `0 < W`: in naturals `0 = 0 - 1`) -/
theorem natCast_lt_pred (i L : Nat) : ((i : Int) < (L : Int) - 1) ↔ i < L - 1 := by omega
theorem natCast_eq_pred {j W : Nat} (h : j < W) : ((j : Int) = (W : Int) - 1) ↔ j = W - 1 := by omega

/-- the left neighbour `off + i·W + j - 1` (or `… + W - 1` at the wrap-around): the model's subtraction in
naturals is the code's in integers when the last summand is positive -/
theorem natCast_add_pred (a : Nat) {b : Nat} (h : b ≠ 0) : ((a + b - 1 : Nat) : Int) = a + b - 1 := by omega

theorem idx_mv (b : Board) (i j : Nat) : Py.idx (Py.idx (encM b.moves) i) j = (b.mv i j : Int) :=
  idx_encM _ i j

theorem idx_ls (b : Board) (i j : Nat) : Py.idx (Py.idx (encM b.loose) i) j = (b.ls i j : Int) :=
  idx_encM _ i j

/-- how a model transition shows in the extracted code on a probabilistic row -/
def encP (t : Tr Float) : Float × Int := (t.p, (t.tgt : Int))
/-- … and on a player's row -/
def encA (t : Tr Float) : String × Int := (t.act, (t.tgt : Int))

/-- The last step of a cell of `player_one_left_right_transitions` and of `player_one_down_left_right_transitions`:
the arrow on the tile says which of the cell's transitions go into the row (none for a number that is no arrow). -/
theorem move_cell (c0 c1 c2 c3 : List (Tr Float)) (mi : Int) (m : Nat) (hm : mi = m)
    (st : List (List (String × Int))) :
    (if mi = 0 then st ++ [c0.map encA]
      else if mi = 1 then st ++ [c1.map encA]
      else if mi = 2 then st ++ [c2.map encA]
      else if mi = 3 then st ++ [c3.map encA]
      else st)
      = st ++ (match m with
          | 0 => some c0
          | 1 => some c1
          | 2 => some c2
          | 3 => some c3
          | _ => none).toList.map (List.map encA) := by
  subst hm
  simp only [natCast_eq_lit]
  rcases m with _ | _ | _ | _ | n
  -- an arrow: both sides evaluate; no arrow: nothing is appended
  iterate 4 rfl
  exact (List.append_nil st).symm

theorem mem_map_ofNat (l : List Nat) (x : Nat) : Int.ofNat x ∈ l.map Int.ofNat ↔ x ∈ l :=
  ⟨fun h => by obtain ⟨a, ha, e⟩ := List.mem_map.1 h; exact Int.ofNat.inj e ▸ ha, List.mem_map_of_mem⟩

theorem contains_map_ofNat (b : List Nat) (x : Nat) :
    (b.map Int.ofNat).contains (Int.ofNat x) = b.contains x := by
  rw [Bool.eq_iff_iff, List.contains_iff_mem, List.contains_iff_mem]
  exact mem_map_ofNat b x

theorem sameSet_map_ofNat (a b : List Nat) :
    Py.sameSet (a.map Int.ofNat) (b.map Int.ofNat) = sameSet a b := by
  unfold Py.sameSet sameSet
  simp only [List.all_map, Function.comp_def, contains_map_ofNat]

theorem filter_enc {A B : Type} (e : B → A) (p : A → Bool) (q : B → Bool) (h : ∀ b, p (e b) = q b)
    (row : List B) : (row.map e).filter p = (row.filter q).map e := by
  rw [List.filter_map]
  exact congrArg _ (List.filter_congr fun b _ => h b)

theorem whileFuel_done {σ : Type} {c : σ → Bool} {st : σ} (h : c st = false) (fuel : Nat) (body : σ → σ) :
    Py.whileFuel fuel c body st = some st := by
  cases fuel <;> simp [Py.whileFuel, h]

theorem whileFuel_step {σ : Type} {c : σ → Bool} {st : σ} (h : c st = true) (fuel : Nat) (body : σ → σ) :
    Py.whileFuel (fuel + 1) c body st = Py.whileFuel fuel c body (body st) := by
  rw [Py.whileFuel, if_pos h]

end CR.Tie
