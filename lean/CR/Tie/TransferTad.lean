/-
Transfer of property theorems from the hand-written model to the mechanically translated code.

Every theorem below is about a definition of CR/Extracted/Tad.lean (namespace `CR.Ex.Tad`: the output of
`harness/py2lean.py`, regenerated from /repo on every run).  Each one is obtained by rewriting with a
tie theorem of CR/Tie/Tad.lean and then applying a theorem already proved about the model
(CR/Props/C03.lean, C04.lean, or the generic lemma of CR/Lemmas/Prune.lean, Strat.lean that the property file
itself applies).
The docstring of each theorem names the model theorem it transfers.  The conditioning theorems of a
probabilistic row carry the hypothesis that the model's `prunePathsProb` returns `.ok` (the translated
`ProbabilisticNode_prune_paths` has no `ZeroDivisionError` branch: `prob_prune_paths_tie`), the strategy theorems
the hypothesis `RndAgree` (see CR/Tie/Tad.lean).

Only theorems over an arbitrary carrier (instantiated here at `Float`) or about
`Nat`/`Int`/`String`/`Float`-by-kernel-evaluation transfer: `Float` is not an ordered field.
-/
import CR.Tie.Tad
import CR.Props.C03
import CR.Props.C04

namespace CR.Tie
open CR

/-! C03, row by row.  `dead reach t` : the successor of `t` has reachability value `== 0`; `keptMass reach row` :
the sum of the surviving probabilities as Python's `sum` computes it; `condProb`, `condRow` : the conditioned rows
in whose terms `CR.Props.C03` is stated (all from CR/Lemmas/Prune.lean, generic in the carrier). -/

section Prune

theorem code_p1_prune_eq (row : List (Tr Float)) (strat : List String) (reach : Array Float) :
    Ex.Tad.PlayerOne_prune_paths (Ex.Tad.PlayerOne_prune_paths_reachability (row.map encA) strat) reach.toList
      = ((row.filter (fun t => strat.contains t.act)).filter (fun t => !dead reach t)).map encA := by
  rw [p1_prune_reachability_tie, p1_prune_paths_tie]
  rfl

/-- transfers the row content of `C03.p1_survivors`: what the code keeps of a Player 1 row is a sub-list
(original order) of the row, and a transition is kept iff it is in the row, its action is in the strategy and
its successor's reachability value is not `== 0` -/
theorem code_p1_survivors (row : List (Tr Float)) (strat : List String) (reach : Array Float) :
    (Ex.Tad.PlayerOne_prune_paths (Ex.Tad.PlayerOne_prune_paths_reachability (row.map encA) strat)
        reach.toList).Sublist (row.map encA) ∧
    ∀ x, x ∈ Ex.Tad.PlayerOne_prune_paths (Ex.Tad.PlayerOne_prune_paths_reachability (row.map encA) strat)
          reach.toList
      ↔ x ∈ row.map encA ∧ x.1 ∈ strat ∧ (Py.idx reach.toList x.2 == (0 : Float)) = false := by
  rw [code_p1_prune_eq]
  refine ⟨(List.Sublist.trans List.filter_sublist List.filter_sublist).map encA, fun x => ?_⟩
  simp only [List.mem_map, List.mem_filter, List.contains_eq_mem, decide_eq_true_eq, Bool.not_eq_true', dead]
  constructor
  · rintro ⟨t, ⟨⟨ht, hs⟩, hd⟩, rfl⟩
    exact ⟨⟨t, ht, rfl⟩, hs, by simpa only [encA, idx_arr] using hd⟩
  · rintro ⟨⟨t, ht, rfl⟩, hs, hd⟩
    exact ⟨t, ⟨⟨ht, hs⟩, by simpa only [encA, idx_arr] using hd⟩, rfl⟩

theorem code_p1_condRow {g : Game Float} {strat : Array Strat} {reach : Array Float} {s : Nat}
    (ho : g.owners.getD s .prob = .p1) :
    Ex.Tad.PlayerOne_prune_paths
        (Ex.Tad.PlayerOne_prune_paths_reachability ((g.tl.getD s []).map encA) ((strat.getD s none).getD []))
        reach.toList
      = (condRow g strat reach s).map encA := by
  rw [code_p1_prune_eq, condRow_p1 ho]

theorem code_prob_prune_condProb (row : List (Tr Float)) (reach : Array Float) {row' : List (Tr Float)}
    (h : prunePathsProb reach row = .ok row') :
    Ex.Tad.ProbabilisticNode_prune_paths (row.map encP) reach.toList = (condProb reach row).map encP := by
  rw [prob_prune_paths_tie row reach h, prunePathsProb_ok h]

theorem code_prob_condRow {g : Game Float} {strat : Array Strat} {reach : Array Float} {s : Nat}
    (ho : g.owners.getD s .prob = .prob) {row' : List (Tr Float)}
    (h : prunePathsProb reach (g.tl.getD s []) = .ok row') :
    Ex.Tad.ProbabilisticNode_prune_paths ((g.tl.getD s []).map encP) reach.toList
      = (condRow g strat reach s).map encP := by
  rw [code_prob_prune_condProb _ _ h, condRow_prob ho]

/-- transfers the carrier-generic part of `C03.prob_survivors_of_removed` (the shape of `condProb`): if no
successor is dead the code returns the row unchanged; otherwise it returns the live transitions, in their
original order and with their original targets, each carrying its original probability divided by the total
surviving probability; in both cases the targets are those of the live transitions, in order -/
theorem code_prob_survivors (row : List (Tr Float)) (reach : Array Float) {row' : List (Tr Float)}
    (h : prunePathsProb reach row = .ok row') :
    ((row.filter (fun t => !dead reach t)).length = row.length →
      Ex.Tad.ProbabilisticNode_prune_paths (row.map encP) reach.toList = row.map encP) ∧
    ((row.filter (fun t => !dead reach t)).length ≠ row.length →
      Ex.Tad.ProbabilisticNode_prune_paths (row.map encP) reach.toList
        = (row.filter (fun t => !dead reach t)).map (fun t => (t.p / keptMass reach row, (t.tgt : Int)))) ∧
    (Ex.Tad.ProbabilisticNode_prune_paths (row.map encP) reach.toList).map (·.2)
      = (row.filter (fun t => !dead reach t)).map (fun t => (t.tgt : Int)) := by
  rw [code_prob_prune_condProb row reach h]
  unfold condProb
  by_cases hl : (row.filter (fun t => !dead reach t)).length = row.length
  · rw [if_pos hl]
    refine ⟨fun _ => rfl, fun hne => absurd hl hne, ?_⟩
    rw [List.filter_eq_self.2 (List.length_filter_eq_length_iff.1 hl), List.map_map]
    rfl
  · rw [if_neg hl]
    refine ⟨fun he => absurd he hl, fun _ => ?_, ?_⟩
    · rw [List.map_map]; rfl
    · rw [List.map_map, List.map_map]; rfl

/-- transfers the row content of `C03.no_dead_successor` for probabilistic rows: no transition kept by the code
leads to a state whose reachability value is `== 0` -/
theorem code_prob_no_dead (row : List (Tr Float)) (reach : Array Float) {row' : List (Tr Float)}
    (h : prunePathsProb reach row = .ok row') :
    ∀ x ∈ Ex.Tad.ProbabilisticNode_prune_paths (row.map encP) reach.toList,
      (Py.idx reach.toList x.2 == (0 : Float)) = false := by
  intro x hx
  have hm : x.2 ∈ (Ex.Tad.ProbabilisticNode_prune_paths (row.map encP) reach.toList).map (·.2) :=
    List.mem_map_of_mem (f := fun x : Float × Int => x.2) hx
  rw [(code_prob_survivors row reach h).2.2] at hm
  obtain ⟨t, ht, hxt⟩ := List.mem_map.1 hm
  have hd := (List.mem_filter.1 ht).2
  rw [← hxt, idx_arr]
  simpa [dead] using hd

/-- transfers `condRow_no_dead`, the lemma `C03.no_dead_successor` applies: on a Player 1 or probabilistic state
of a game, no transition kept by the code leads to a dead state -/
theorem code_no_dead_successor {g : Game Float} {strat : Array Strat} {reach : Array Float} {s : Nat} :
    (g.owners.getD s .prob = .p1 →
      ∀ x ∈ Ex.Tad.PlayerOne_prune_paths
          (Ex.Tad.PlayerOne_prune_paths_reachability ((g.tl.getD s []).map encA) ((strat.getD s none).getD []))
          reach.toList, (Py.idx reach.toList x.2 == (0 : Float)) = false) ∧
    (g.owners.getD s .prob = .prob → ∀ row', prunePathsProb reach (g.tl.getD s []) = .ok row' →
      ∀ x ∈ Ex.Tad.ProbabilisticNode_prune_paths ((g.tl.getD s []).map encP) reach.toList,
        (Py.idx reach.toList x.2 == (0 : Float)) = false) := by
  constructor
  · intro ho x hx
    rw [code_p1_condRow ho] at hx
    obtain ⟨t, ht, rfl⟩ := List.mem_map.1 hx
    have := condRow_no_dead (by rw [ho]; decide) ht
    simpa only [encA, idx_arr, dead] using this
  · intro ho row' h x hx
    rw [code_prob_condRow (strat := strat) ho h] at hx
    obtain ⟨t, ht, rfl⟩ := List.mem_map.1 hx
    have := condRow_no_dead (by rw [ho]; decide) ht
    simpa only [encP, idx_arr, dead] using this

/-- transfers `condRow_keeps_live`, the lemma `C03.live_transition_kept` applies: no transition between
positive-probability states is lost — every transition of the row whose successor is not dead (and, for
Player 1, whose action is in the strategy) is still there after the code's pruning, with its action (Player 1)
and target -/
theorem code_live_transition_kept {g : Game Float} {strat : Array Strat} {reach : Array Float} {s : Nat}
    {t : Tr Float} (ht : t ∈ g.tl.getD s []) (hlive : dead reach t = false) :
    (g.owners.getD s .prob = .p1 → ((strat.getD s none).getD []).contains t.act = true →
      encA t ∈ Ex.Tad.PlayerOne_prune_paths
          (Ex.Tad.PlayerOne_prune_paths_reachability ((g.tl.getD s []).map encA) ((strat.getD s none).getD []))
          reach.toList) ∧
    (g.owners.getD s .prob = .prob → ∀ row', prunePathsProb reach (g.tl.getD s []) = .ok row' →
      (t.tgt : Int) ∈ (Ex.Tad.ProbabilisticNode_prune_paths ((g.tl.getD s []).map encP) reach.toList).map
        (·.2)) := by
  constructor
  · intro ho hperm
    rw [code_p1_condRow ho]
    obtain ⟨t', ht', ha, hg⟩ := condRow_keeps_live (strat := strat) ht hlive (fun _ => hperm)
    exact List.mem_map.2 ⟨t', ht', by simp only [encA, ha, hg]⟩
  · intro ho row' h
    rw [code_prob_condRow (strat := strat) ho h]
    obtain ⟨t', ht', -, hg⟩ := condRow_keeps_live (strat := strat) ht hlive
      (fun h1 => by rw [ho] at h1; cases h1)
    exact List.mem_map.2 ⟨encP t', List.mem_map_of_mem ht', by simp only [encP, hg]⟩

/-- the `.ok` hypothesis is satisfiable with a row that is renormalised: one dead successor (state 0) out of
two, the survivor's probability `0.5` becomes `0.5 / 0.5` -/
example : (prunePathsProb (α := Float) #[0, 0.5] [⟨"", 0.5, 0⟩, ⟨"", 0.5, 1⟩]).toBool = true := by
  decide +kernel
example : ∃ row', prunePathsProb (α := Float) #[0, 0.5] [⟨"", 0.5, 0⟩, ⟨"", 0.5, 1⟩] = .ok row' := by
  cases h : prunePathsProb (α := Float) #[0, 0.5] [⟨"", 0.5, 0⟩, ⟨"", 0.5, 1⟩] with
  | ok r => exact ⟨r, rfl⟩
  | error e =>
    have : (prunePathsProb (α := Float) #[0, 0.5] [⟨"", 0.5, 0⟩, ⟨"", 0.5, 1⟩]).toBool = true := by
      decide +kernel
    rw [h] at this
    cases this

end Prune

section Strategies
variable {rnd2 : Float → Int → Float} {d : Int} {rndI : Float → Int}

/-- transfers `C04.bestStrat_eq_filter` (C04.1): the reachability strategy the code computes for a Player 1 row
is exactly the list, in transition order, of the actions whose successor has the largest ROUNDED value (the
maximum being clamped below by the literal 0) -/
theorem code_best_strat_reach_argmax (h : RndAgree rnd2 d rndI) (vals : Array Float) (row : List (Tr Float)) :
    Ex.Tad.PlayerOne_get_best_strategies_reachability rnd2 (row.map encA) vals.toList d
      = (row.filter (fun t => rndI (vals.getD t.tgt 0) ==
          row.foldl (fun m t => max m (rndI (vals.getD t.tgt 0))) 0)).map (·.act) := by
  rw [← best_strat_reach_tie h]
  exact C04.bestStrat_eq_filter rndI vals row

/-- transfers `bestStrat_eq_nil_iff`: the code returns no action iff every rounded successor value is
negative (or the row is empty) -/
theorem code_best_strat_reach_nil_iff (h : RndAgree rnd2 d rndI) (vals : Array Float) (row : List (Tr Float)) :
    Ex.Tad.PlayerOne_get_best_strategies_reachability rnd2 (row.map encA) vals.toList d = []
      ↔ ∀ t ∈ row, rndI (vals.getD t.tgt 0) < 0 := by
  rw [← best_strat_reach_tie h]
  exact bestStrat_eq_nil_iff rndI vals row

/-- transfers `C04.worstStratFrom_eq_filter` (C04.2): the reachability strategy the code computes for a
Player 2 row is exactly the list, in transition order, of the actions whose successor has the smallest ROUNDED
value (the minimum being clamped above by the rounded literal 1) -/
theorem code_worst_strat_reach_argmin (h : RndAgree rnd2 d rndI) (vals : Array Float) (row : List (Tr Float)) :
    Ex.Tad.PlayerTwo_get_worst_strategies_reachability rnd2 (row.map encA) vals.toList d
      = (row.filter (fun t => rndI (vals.getD t.tgt 0) ==
          row.foldl (fun m t => min m (rndI (vals.getD t.tgt 0))) (rndI 1))).map (·.act) := by
  rw [← worst_strat_reach_tie h]
  exact C04.worstStratFrom_eq_filter rndI (rndI 1) vals row

/-- transfers the row content of `C05.final_argmax_reported`, Player 1 (`bestStrat_eq`): the reward strategy
the code computes for a Player 1 row lists exactly the actions with the largest rounded expected reward -/
theorem code_best_strat_rew_argmax (h : RndAgree rnd2 d rndI) (vals : Array Float) (row : List (Tr Float)) :
    Ex.Tad.PlayerOne_get_best_strategies_total_rewards rnd2 (row.map encA) vals.toList d
      = (row.filter (fun t => rndI (vals.getD t.tgt 0) ==
          row.foldl (fun m t => max m (rndI (vals.getD t.tgt 0))) 0)).map (·.act) := by
  rw [← best_strat_rew_tie h]
  exact C04.bestStrat_eq_filter rndI vals row

/-- transfers `C04.worstStratRew_eq_filter` (C04.3; the row content of `C05.final_argmax_reported`, Player 2):
on a non-empty row the reward strategy the code computes for Player 2 lists exactly the actions with the
smallest rounded expected reward (a minimum that is attained: no clamp), and it is not empty -/
theorem code_worst_strat_rew_argmin (h : RndAgree rnd2 d rndI) (vals : Array Float) (t0 : Tr Float)
    (rest : List (Tr Float)) :
    Ex.Tad.PlayerTwo_get_worst_strategies_total_rewards rnd2 ((t0 :: rest).map encA) vals.toList d
      = ((t0 :: rest).filter (fun t => rndI (vals.getD t.tgt 0) ==
          (t0 :: rest).foldl (fun m t => min m (rndI (vals.getD t.tgt 0)))
            (rndI (vals.getD t0.tgt 0)))).map (·.act) ∧
    (∀ t ∈ t0 :: rest,
      (t0 :: rest).foldl (fun m t => min m (rndI (vals.getD t.tgt 0))) (rndI (vals.getD t0.tgt 0))
        ≤ rndI (vals.getD t.tgt 0)) ∧
    (∃ t ∈ t0 :: rest, rndI (vals.getD t.tgt 0) =
      (t0 :: rest).foldl (fun m t => min m (rndI (vals.getD t.tgt 0))) (rndI (vals.getD t0.tgt 0))) ∧
    Ex.Tad.PlayerTwo_get_worst_strategies_total_rewards rnd2 ((t0 :: rest).map encA) vals.toList d ≠ [] := by
  rw [← worst_strat_rew_tie h]
  exact C04.worstStratRew_eq_filter rndI vals t0 rest

/-- transfers the row content of `C04.strat_shape` / `C05.final_shape` (`bestStrat_sublist`,
`worstStratFrom_sublist`, `worstStratRew_sublist`): each of the four strategies is a sub-list, in transition
order, of the actions of the row -/
theorem code_strat_sublist (h : RndAgree rnd2 d rndI) (vals : Array Float) (row : List (Tr Float)) :
    (Ex.Tad.PlayerOne_get_best_strategies_reachability rnd2 (row.map encA) vals.toList d).Sublist
        (row.map (·.act)) ∧
    (Ex.Tad.PlayerTwo_get_worst_strategies_reachability rnd2 (row.map encA) vals.toList d).Sublist
        (row.map (·.act)) ∧
    (Ex.Tad.PlayerOne_get_best_strategies_total_rewards rnd2 (row.map encA) vals.toList d).Sublist
        (row.map (·.act)) ∧
    (Ex.Tad.PlayerTwo_get_worst_strategies_total_rewards rnd2 (row.map encA) vals.toList d).Sublist
        (row.map (·.act)) := by
  rw [← best_strat_reach_tie h, ← worst_strat_reach_tie h, ← best_strat_rew_tie h, ← worst_strat_rew_tie h]
  exact ⟨bestStrat_sublist rndI vals row, worstStratFrom_sublist rndI _ vals row,
    bestStrat_sublist rndI vals row, worstStratRew_sublist rndI vals row⟩

/-- transfers the row content of `C04.strat_nonempty_p1` / `C04.strat_nonempty_p2` (`bestStrat_ne_nil`,
`worstStratFrom_ne_nil`): on a non-empty row without negative rounded value (Player 1), resp. without rounded
value above the rounded 1 (Player 2), the reachability strategy is not empty -/
theorem code_strat_reach_nonempty (h : RndAgree rnd2 d rndI) (vals : Array Float) (row : List (Tr Float))
    (hne : row ≠ []) :
    ((∀ t ∈ row, 0 ≤ rndI (vals.getD t.tgt 0)) →
      Ex.Tad.PlayerOne_get_best_strategies_reachability rnd2 (row.map encA) vals.toList d ≠ []) ∧
    ((∀ t ∈ row, rndI (vals.getD t.tgt 0) ≤ rndI 1) →
      Ex.Tad.PlayerTwo_get_worst_strategies_reachability rnd2 (row.map encA) vals.toList d ≠ []) := by
  rw [← best_strat_reach_tie h, ← worst_strat_reach_tie h]
  exact ⟨bestStrat_ne_nil rndI vals row hne, worstStratFrom_ne_nil rndI _ vals row hne⟩

end Strategies

/-- `RndAgree` is satisfiable: a two-valued rounding -/
theorem rndAgree_two_valued :
    RndAgree (fun x _ => if x < 0.5 then 0 else 1) 6 (fun x => if x < 0.5 then 0 else 1) := by
  -- both roundings factor through the Boolean `x < 0.5`; the six facts are then instances of a finite table
  -- (0 is the rounding of `true`, 1 that of `false`)
  have key : ∀ b c : Bool,
      ((bif b then (0 : Float) else 1) < (bif c then 0 else 1)
        ↔ (bif b then (0 : Int) else 1) < (bif c then 0 else 1)) ∧
      (((bif b then (0 : Float) else 1) == (bif c then 0 else 1)) = true
        ↔ (bif b then (0 : Int) else 1) = (bif c then 0 else 1)) := by
    decide +kernel
  have h1 : decide ((1 : Float) < 0.5) = false := by decide +kernel
  refine ⟨fun x y => ?_, fun x y => ?_, fun x => ?_, fun x => ?_, fun x => ?_, fun x => ?_⟩ <;>
    simp only [← Bool.cond_decide, h1]
  · exact (key _ _).1
  · exact (key _ _).2
  · exact (key true _).1
  · exact (key _ true).2
  · exact (key _ false).1
  · exact (key _ false).2

example : RndAgree (fun x _ => if x < 0.5 then 0 else 1) 6 (fun x => if x < 0.5 then 0 else 1) :=
  rndAgree_two_valued

/-- an instance: under the two-valued rounding the code's Player 1 strategy on a three-action row whose
successors have values 0.9, 0.2, 0.7 is `["a", "c"]` -/
example : Ex.Tad.PlayerOne_get_best_strategies_reachability (fun x _ => if x < 0.5 then 0 else 1)
    (([⟨"a", 0, 0⟩, ⟨"b", 0, 1⟩, ⟨"c", 0, 2⟩] : List (Tr Float)).map encA) (#[0.9, 0.2, 0.7] : Array Float).toList 6
    = ["a", "c"] := by
  rw [code_best_strat_reach_argmax rndAgree_two_valued]
  decide +kernel

end CR.Tie
