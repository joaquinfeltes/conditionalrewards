/-
Tie theorems for `roberta_generator.py`: the mechanical translation of each function (CR/Extracted/Gen.lean,
regenerated from /repo on every run) equals the hand-written model (CR/Model/Gen.lean) on every argument, with
one proviso: `player_one_down_tie` asks `w ≠ some 0`, because Python's `if not winning_state` treats a winning
state numbered 0 as absent (the callers pass `None` or `n·k + 1`).

Every builder is two nested loops over the board, so every proof is `fold_cells` (CR/Tie/Basic.lean) followed
by the comparison of one cell of the code with the same cell of the model.
-/
import CR.Tie.Basic
import CR.Extracted.Gen

namespace CR.Tie
open CR CR.Gen

/-! Offsets are naturals in the model and integers in the code, where the callers (`write_robot_*`) compute
them in integer arithmetic (`robot_down * n_tiles`, …): every tie takes the integer together with an equation
`x = ↑off`, which the caller discharges by `rfl` (sums and products of literals and casts of naturals reduce to
the cast of the natural sum or product). -/

theorem prob_light_break_tie (L W : Nat) (p : Float) (offOk offBreak : Nat) (x y : Int)
    (hx : x = offOk) (hy : y = offBreak) :
    Ex.Gen.prob_light_break_transitions L W p x y
      = (probLightBreak (α := Float) L W p offOk offBreak).map (·.map encP) := by
  subst hx hy
  unfold Ex.Gen.prob_light_break_transitions probLightBreak
  rw [grid_eq_cells]
  exact fold_cells id _ L W _ _ (fun _ _ _ _ _ => rfl) []

theorem prob_robot_right_break_tie (L W : Nat) (p : Float) (off : Nat) (x : Int) (hx : x = off) :
    Ex.Gen.prob_robot_right_break_transitions L W p x
      = (probRobotRightBreak (α := Float) L W p off).map (·.map encP) := by
  subst hx
  unfold Ex.Gen.prob_robot_right_break_transitions probRobotRightBreak
  rw [grid_eq_cells]
  refine fold_cells id _ L W _ _ (fun st i _ j hj => ?_) []
  simp only [natCast_eq_pred hj]
  split <;> simp [encP, pr]

theorem prob_robot_left_break_tie (L W : Nat) (p : Float) (off : Nat) (x : Int) (hx : x = off) :
    Ex.Gen.prob_robot_left_break_transitions L W p x
      = (probRobotLeftBreak (α := Float) L W p off).map (·.map encP) := by
  subst hx
  unfold Ex.Gen.prob_robot_left_break_transitions probRobotLeftBreak
  rw [grid_eq_cells]
  refine fold_cells id _ L W _ _ (fun st i _ j hj => ?_) []
  simp only [natCast_eq_lit]
  split
  next => simp [encP, pr, natCast_add_pred _ (Nat.ne_zero_of_lt hj)]
  next h => simp [encP, pr, natCast_add_pred _ h]

theorem prob_robot_down_break_tie (L W : Nat) (p : Float) (off win : Nat) (x y : Int)
    (hx : x = off) (hy : y = win) :
    Ex.Gen.prob_robot_down_break_transitions L W p x y
      = (probRobotDownBreak (α := Float) L W p off win).map (·.map encP) := by
  subst hx hy
  unfold Ex.Gen.prob_robot_down_break_transitions probRobotDownBreak
  rw [grid_eq_cells]
  refine fold_cells id _ L W _ _ (fun st i _ j _ => ?_) []
  simp only [natCast_lt_pred]
  split <;> simp [encP, pr]

theorem prob_tile_break_tie (L W : Nat) (p : Float) (b : Board) (off lose : Nat) (x y : Int)
    (hx : x = off) (hy : y = lose) :
    Ex.Gen.prob_tile_break_transitions L W p (encM b.loose) x y
      = (probTileBreak (α := Float) L W p b off lose).map (·.map encP) := by
  subst hx hy
  unfold Ex.Gen.prob_tile_break_transitions probTileBreak
  rw [grid_eq_cells]
  refine fold_cells id _ L W _ _ (fun st i _ j _ => ?_) []
  simp only [idx_ls, natCast_eq_lit]
  split <;> simp [encP, pr]

theorem player_two_tie (L W : Nat) (b : Board) (offR offY : Nat) (x y : Int) (hx : x = offR) (hy : y = offY) :
    Ex.Gen.player_two_transitions L W (encM b.moves) x y
      = (playerTwo (α := Float) L W b offR offY).map (·.map encA) := by
  subst hx hy
  unfold Ex.Gen.player_two_transitions playerTwo
  rw [grid_eq_cells]
  -- `transition` is assigned under two complementary `if`s, so it is carried by the loops beside the list
  refine fold_cells Prod.snd _ L W _ _ (fun st i _ j _ => ?_) ([], [])
  simp only [idx_mv, natCast_eq_lit, ne_eq]
  split <;> simp [encA, act, *]

theorem player_one_down_tie (L W : Nat) (off : Nat) (w : Option Nat) (hw : w ≠ some 0) (x : Int) (y : Option Int)
    (hx : x = off) (hy : y = w.map Int.ofNat) :
    Ex.Gen.player_one_down_transitions L W x y
      = (playerOneDown (α := Float) L W off w).map (·.map encA) := by
  subst hx hy
  unfold Ex.Gen.player_one_down_transitions playerOneDown
  rw [grid_eq_cells]
  refine fold_cells id _ L W _ _ (fun st i _ j _ => ?_) []
  cases w with
  | none => simp [Py.truthyOpt, encA, act]
  | some n =>
    have hn : n ≠ 0 := fun h => hw (by rw [h])
    simp only [natCast_lt_pred]
    simp [Py.truthyOpt, Py.unopt, hn]
    split <;> simp [encA, act]

theorem player_one_down_left_right_tie (L W : Nat) (b : Board) (offD offL offR : Nat) (z x y : Int)
    (hz : z = offD) (hx : x = offL) (hy : y = offR) :
    Ex.Gen.player_one_down_left_right_transitions L W (encM b.moves) z x y
      = (playerOneDownLeftRight (α := Float) L W b offD offL offR).map (·.map encA) := by
  subst hz hx hy
  unfold Ex.Gen.player_one_down_left_right_transitions playerOneDownLeftRight
  rw [gridOpt_eq_flatMap]
  refine fold_cells id _ L W _ _ (fun st i _ j _ => ?_) []
  refine Eq.trans ?_ (move_cell _ _ _ _ _ (b.mv i j) (idx_mv b i j) st)
  -- the code picks from `[Down, Left, Right]` by position
  rfl

end CR.Tie
