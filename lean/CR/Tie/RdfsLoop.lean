/-
Tie theorems for the search of `reverse_dfs.py`: the mechanical translation of `reverse_dfs_recursive` (the
explicit-stack `while pending:` loop, fuel-bounded) and of `reverse_dfs` (CR/Extracted/Rdfs.lean, regenerated
from /repo on every run) against the hand-written model (CR/Model/Rdfs.lean: `dfsLoop`, `reverseDfs`), and
the C07 theorems transferred to the translated code.

The Python stack `pending` is the reverse of the model's `stack`; `visited` = `rec_reaching_states` = the
reverse of the model's `acc`.  One iteration of the loop is one unfolding of `dfsLoop` (`loop_sim`).

Hypotheses of `dfs_recursive_tie`, `reverse_dfs_tie` and of every `code_rdfs_*`: all targets and all final
states are `< tl.length`, and `fuel ≥ E tl + 1` (number of transitions + 1; tight, see the last example).
The proofs use them in `reverse_table_get_all` (CR/Tie/Rdfs.lean; targets) and `loop_sim` (fuel); the
hypothesis on the final states is not used (outside `0..n-1` both tables give the empty list), it is where
Python raises `KeyError`, which the translation does not model.
-/
import CR.Tie.Rdfs
import CR.Props.C07

namespace CR.Tie
open CR

/-- number of transitions (the `E` of "V + E") -/
def E {A : Type} (tl : List (List A)) : Nat := (tl.map List.length).sum

/-- a list of model states as the code sees it (Python appends, the model prepends) -/
def encL (l : List Nat) : List Int := l.reverse.map Int.ofNat

theorem encL_cons (s : Nat) (l : List Nat) : encL (s :: l) = encL l ++ [(s : Int)] := by
  simp [encL]

theorem encL_append (l₁ l₂ : List Nat) : encL (l₁ ++ l₂) = encL l₂ ++ encL l₁ := by
  simp [encL]

theorem mem_encL (s : Nat) (l : List Nat) : (s : Int) ∈ encL l ↔ s ∈ l :=
  (mem_map_ofNat l.reverse s).trans List.mem_reverse

/-- the loop condition of the translated `reverse_dfs_recursive` -/
def loopCond (st : List Int × List Int × List Int) : Bool := decide (st.1 ≠ [])

/-- the loop body of the translated `reverse_dfs_recursive` -/
def loopBody (table : List (Int × List Int)) (st : List Int × List Int × List Int) :
    List Int × List Int × List Int :=
  if Py.last st.1 ∈ st.2.1 then (List.dropLast st.1, st.2.1, st.2.2)
  else (List.dropLast st.1 ++ List.reverse (Py.dictGet table (Py.last st.1)),
        st.2.1 ++ [Py.last st.1], st.2.2 ++ [Py.last st.1])

theorem dfs_recursive_eq (fuel : Nat) (state : Int) (table : List (Int × List Int)) (rs : List Int) :
    Ex.Rdfs.reverse_dfs_recursive fuel state table rs
      = (Py.whileFuel fuel loopCond (loopBody table) ([state], rs, rs)).map (·.2.2) := by
  show (match Py.whileFuel fuel loopCond (loopBody table) ([state], rs, rs) with
    | none => none | some st1 => some st1.2.2) = _
  cases Py.whileFuel fuel loopCond (loopBody table) ([state], rs, rs) <;> rfl

theorem loopBody_visited (table : List (Int × List Int)) (s : Nat) (rest acc : List Nat) (R : List Int)
    (h : s ∈ acc) :
    loopBody table (encL (s :: rest), encL acc, R) = (encL rest, encL acc, R) := by
  unfold loopBody
  simp only [encL_cons, Py.last, List.getLastD_concat, List.dropLast_concat]
  rw [if_pos ((mem_encL s acc).2 h)]

theorem loopBody_new (table : List (Int × List Int)) (s : Nat) (rest acc preds : List Nat) (R : List Int)
    (h : s ∉ acc) (hp : Py.dictGet table (s : Int) = preds.map Int.ofNat) :
    loopBody table (encL (s :: rest), encL acc, R)
      = (encL (preds ++ rest), encL (s :: acc), R ++ [(s : Int)]) := by
  unfold loopBody
  simp only [encL_cons, Py.last, List.getLastD_concat, List.dropLast_concat]
  rw [if_neg (fun hc => h ((mem_encL s acc).1 hc)), hp, encL_append]
  simp [encL]

theorem loopCond_nil (V R : List Int) : loopCond ([], V, R) = false := by
  simp [loopCond]

theorem loopCond_cons (s : Nat) (rest : List Nat) (V R : List Int) :
    loopCond (encL (s :: rest), V, R) = true := by
  simp [loopCond, encL_cons]

/-- the potential that bounds the number of iterations: transitions (as pairs `(target, source)`) into states not
yet visited -/
def pot (L : List (Nat × Nat)) (acc : List Nat) : Nat := (L.filter (fun p => !acc.contains p.1)).length

theorem pot_cons (L : List (Nat × Nat)) (s : Nat) (acc : List Nat) (h : s ∉ acc) :
    pot L (s :: acc) + (L.filter (fun p => p.1 == s)).length = pot L acc :=
  length_filter_unvisited_cons (fun p : Nat × Nat => p.1) L (by simpa using h)

theorem pot_le (L : List (Nat × Nat)) (acc : List Nat) : pot L acc ≤ L.length :=
  List.length_filter_le _ _

theorem revCore_length (tl : List (List Nat)) : (revCore tl).length = E tl := by
  rw [RdfsLemmas.revCore_eq, List.length_flatMap, E]
  conv => rhs; rw [← List.zipIdx_map_fst 0 tl, List.map_map]
  simp only [List.length_map, Function.comp_def]

theorem E_tgts {A : Type} (tl : List (List (A × Nat))) : E (tgts tl) = E tl := by
  simp [E, tgts, List.map_map, Function.comp_def]

theorem revTable_getD_length (tl : List (List Nat)) (v : Nat) :
    ((revTable tl).getD v []).length ≤ ((revCore tl).filter (fun p => p.1 == v)).length := by
  by_cases hv : v < tl.length
  · rw [revTable_getD_eq tl v hv, List.length_map]; exact Nat.le_refl _
  · rw [RdfsLemmas.revTable_getD_of_ge tl v (by omega)]; exact Nat.zero_le _

/-- the generalised simulation: any stack, any accumulator; `fuel` must cover the stack plus the transitions
into states not yet visited (each iteration pops one element; a new state pushes its table entry) -/
theorem loop_sim (table : List (Int × List Int)) (tl : List (List Nat))
    (htab : ∀ v : Nat, Py.dictGet table (v : Int) = ((revTable tl).getD v []).map Int.ofNat)
    (stack acc : List Nat) :
    ∀ (fuel : Nat), stack.length + pot (revCore tl) acc ≤ fuel →
      Py.whileFuel fuel loopCond (loopBody table) (encL stack, encL acc, encL acc)
        = some ([], encL (dfsLoop (revTable tl) stack acc), encL (dfsLoop (revTable tl) stack acc)) := by
  fun_induction dfsLoop (revTable tl) stack acc with
  | case1 acc => exact fun fuel _ => whileFuel_done (loopCond_nil _ _) fuel _
  | case2 acc s rest hc ih =>
    rintro (_ | fuel) hfuel
    · simp at hfuel
    rw [whileFuel_step (loopCond_cons s rest _ _), loopBody_visited table s rest acc _ (by simpa using hc)]
    apply ih
    simp only [List.length_cons] at hfuel
    omega
  | case3 acc s rest hc ih =>
    rintro (_ | fuel) hfuel
    · simp at hfuel
    have hmem : s ∉ acc := by simpa using hc
    rw [whileFuel_step (loopCond_cons s rest _ _), loopBody_new table s rest acc _ _ hmem (htab s), ← encL_cons]
    apply ih
    have h1 := pot_cons (revCore tl) s acc hmem
    have h2 := revTable_getD_length tl s
    simp only [List.length_cons, List.length_append] at hfuel ⊢
    omega

theorem dfs_loop_tie {A : Type} [Inhabited A] (tl : List (List (A × Nat)))
    (hr : ∀ row ∈ tl, ∀ t ∈ row, t.2 < tl.length) (stack acc : List Nat)
    (fuel : Nat) (hfuel : stack.length + E tl ≤ fuel) :
    Py.whileFuel fuel loopCond (loopBody (Ex.Rdfs.reverse_transition_list (encT tl)))
        (encL stack, encL acc, encL acc)
      = some ([], encL (dfsLoop (revTable (tgts tl)) stack acc), encL (dfsLoop (revTable (tgts tl)) stack acc)) := by
  apply loop_sim _ (tgts tl) (reverse_table_get_all tl hr) stack acc fuel
  have h1 := pot_le (revCore (tgts tl)) acc
  rw [revCore_length, E_tgts] at h1
  omega

theorem dfs_recursive_encL {A : Type} [Inhabited A] (tl : List (List (A × Nat)))
    (hr : ∀ row ∈ tl, ∀ t ∈ row, t.2 < tl.length) (s : Nat) (acc : List Nat)
    (fuel : Nat) (hfuel : E tl + 1 ≤ fuel) :
    Ex.Rdfs.reverse_dfs_recursive fuel (s : Int) (Ex.Rdfs.reverse_transition_list (encT tl)) (encL acc)
      = some (encL (dfsLoop (revTable (tgts tl)) [s] acc)) := by
  rw [dfs_recursive_eq]
  exact congrArg (Option.map (·.2.2))
    (dfs_loop_tie tl hr [s] acc fuel (by rw [List.length_singleton, Nat.add_comm]; exact hfuel))

/-- the translated explicit-stack search equals the model's `dfsLoop`, for any `acc` (`acc.reverse.map
Int.ofNat` is `encL acc`, spelled out).  The proof does not need `hs`: an out-of-range start state has no table
entry on either side; it is kept because there Python raises `KeyError`. -/
theorem dfs_recursive_tie {A : Type} [Inhabited A] (tl : List (List (A × Nat)))
    (hr : ∀ row ∈ tl, ∀ t ∈ row, t.2 < tl.length) (s : Nat) (hs : s < tl.length) (acc : List Nat)
    (fuel : Nat) (hfuel : E tl + 1 ≤ fuel) :
    Ex.Rdfs.reverse_dfs_recursive fuel (s : Int) (Ex.Rdfs.reverse_transition_list (encT tl))
        (acc.reverse.map Int.ofNat)
      = some ((dfsLoop (revTable (tgts tl)) [s] acc).reverse.map Int.ofNat) :=
  have _ := hs
  dfs_recursive_encL tl hr s acc fuel hfuel

theorem fold_finals {A : Type} [Inhabited A] (tl : List (List (A × Nat)))
    (hr : ∀ row ∈ tl, ∀ t ∈ row, t.2 < tl.length) (finals : List Nat)
    (fuel : Nat) (hfuel : E tl + 1 ≤ fuel) (acc : List Nat) :
    List.foldl (fun (st1 : List Int) (it2 : Int) =>
        Py.orDefault (Ex.Rdfs.reverse_dfs_recursive fuel it2 (Ex.Rdfs.reverse_transition_list (encT tl)) st1))
      (encL acc) (finals.map Int.ofNat)
      = encL (RdfsLemmas.allFrom (revTable (tgts tl)) finals acc) := by
  refine fold_sim (fun (c : List Int) (a : List Nat) => c = encL a) _ _ Int.ofNat ?_ finals (encL acc) acc rfl
  rintro _ a f rfl
  exact congrArg Py.orDefault (dfs_recursive_encL tl hr f a fuel hfuel)

theorem sortInts_encL (l : List Nat) :
    Py.sortInts (encL l) = (l.mergeSort (fun a b => decide (a ≤ b))).map Int.ofNat := by
  unfold Py.sortInts encL
  -- `Int.ofNat` is monotone, so the sort commutes with it; then two sorted arrangements of one list
  rw [← List.map_mergeSort (r := fun a b => decide (a ≤ b)) (fun a _ b _ => by simp)]
  refine congrArg _ (List.Perm.eq_of_pairwise (le := fun (a b : Nat) => a ≤ b)
    (fun a b _ _ => Nat.le_antisymm) (RdfsLemmas.pairwise_mergeSort_le _) (RdfsLemmas.pairwise_mergeSort_le _) ?_)
  exact (List.mergeSort_perm _ _).trans ((List.reverse_perm l).trans (List.mergeSort_perm l _).symm)

theorem filter_encL (finals l : List Nat) :
    List.filter (fun (state : Int) => decide (¬ state ∈ finals.map Int.ofNat)) (encL l)
      = encL (l.filter (fun s => !finals.contains s)) := by
  unfold encL
  rw [filter_enc Int.ofNat _ (fun s => !finals.contains s) (fun s => by simp only [mem_map_ofNat, decide_not, List.contains_eq_mem]),
    List.filter_reverse]

/-- the translated `reverse_dfs` equals the model's `reverseDfs` -/
theorem reverse_dfs_tie {A : Type} [Inhabited A] (tl : List (List (A × Nat)))
    (hr : ∀ row ∈ tl, ∀ t ∈ row, t.2 < tl.length) (finals : List Nat) (hf : ∀ f ∈ finals, f < tl.length)
    (fuel : Nat) (hfuel : E tl + 1 ≤ fuel) :
    Ex.Rdfs.reverse_dfs fuel (encT tl) (finals.map Int.ofNat) = (reverseDfs (tgts tl) finals).map Int.ofNat := by
  have _ := hf
  unfold Ex.Rdfs.reverse_dfs
  dsimp only
  have h : List.foldl _ ([] : List Int) _ = _ := fold_finals tl hr finals fuel hfuel []
  rw [h, List.map_id', filter_encL, sortInts_encL, RdfsLemmas.reverseDfs_eq]

section Code
variable {A : Type} [Inhabited A] (tl : List (List (A × Nat)))
  (hr : ∀ row ∈ tl, ∀ t ∈ row, t.2 < tl.length) (finals : List Nat) (hf : ∀ f ∈ finals, f < tl.length)
  (fuel : Nat) (hfuel : E tl + 1 ≤ fuel)
include hr hf hfuel

/-- the code's result is strictly ascending: sorted ascending and every state at most once -/
theorem code_rdfs_sorted :
    (Ex.Rdfs.reverse_dfs fuel (encT tl) (finals.map Int.ofNat)).Pairwise (· < ·) := by
  rw [reverse_dfs_tie tl hr finals hf fuel hfuel, List.pairwise_map]
  refine (C07.rdfs_sorted (tgts tl) finals).imp ?_
  intro a b h
  simp only [Int.ofNat_eq_natCast]
  omega

/-- sorted ascending -/
theorem code_rdfs_sorted_le :
    (Ex.Rdfs.reverse_dfs fuel (encT tl) (finals.map Int.ofNat)).Pairwise (· ≤ ·) :=
  (code_rdfs_sorted tl hr finals hf fuel hfuel).imp (fun h => Int.le_of_lt h)

/-- no duplicates -/
theorem code_rdfs_nodup :
    (Ex.Rdfs.reverse_dfs fuel (encT tl) (finals.map Int.ofNat)).Nodup :=
  (code_rdfs_sorted tl hr finals hf fuel hfuel).imp (fun h => Int.ne_of_lt h)

/-- membership: exactly the (Python-int images of the) non-final states from which a final state is
reachable -/
theorem code_rdfs_mem (x : Int) :
    x ∈ Ex.Rdfs.reverse_dfs fuel (encT tl) (finals.map Int.ofNat)
      ↔ ∃ s : Nat, x = (s : Int) ∧ s ∉ finals ∧ ∃ f ∈ finals, C07.Reach (tgts tl) s f := by
  rw [reverse_dfs_tie tl hr finals hf fuel hfuel, List.mem_map]
  constructor
  · rintro ⟨s, hs, rfl⟩
    exact ⟨s, rfl, (C07.rdfs_mem (tgts tl) finals (tgts_range tl hr) s).1 hs⟩
  · rintro ⟨s, rfl, h⟩
    exact ⟨s, (C07.rdfs_mem (tgts tl) finals (tgts_range tl hr) s).2 h, rfl⟩

/-- membership of a state -/
theorem code_rdfs_mem_nat (s : Nat) :
    (s : Int) ∈ Ex.Rdfs.reverse_dfs fuel (encT tl) (finals.map Int.ofNat)
      ↔ (s ∉ finals ∧ ∃ f ∈ finals, C07.Reach (tgts tl) s f) := by
  rw [reverse_dfs_tie tl hr finals hf fuel hfuel]
  exact (mem_map_ofNat _ s).trans (C07.rdfs_mem (tgts tl) finals (tgts_range tl hr) s)

/-- the result contains no final state -/
theorem code_rdfs_no_final :
    ∀ x ∈ Ex.Rdfs.reverse_dfs fuel (encT tl) (finals.map Int.ofNat), x ∉ finals.map Int.ofNat := by
  intro x hx hxf
  obtain ⟨s, rfl, hns, _⟩ := (code_rdfs_mem tl hr finals hf fuel hfuel x).1 hx
  exact hns ((mem_map_ofNat finals s).1 hxf)

/-- every member is a state `0..n-1` -/
theorem code_rdfs_range :
    ∀ x ∈ Ex.Rdfs.reverse_dfs fuel (encT tl) (finals.map Int.ofNat), 0 ≤ x ∧ x < (tl.length : Int) := by
  intro x hx
  rw [reverse_dfs_tie tl hr finals hf fuel hfuel] at hx
  obtain ⟨s, hs, rfl⟩ := List.mem_map.1 hx
  have := RdfsLemmas.reverseDfs_lt _ _ hs
  rw [tgts_length] at this
  simp only [Int.ofNat_eq_natCast]
  omega

/-- sortedness and membership determine the code's output uniquely -/
theorem code_rdfs_unique (l : List Nat) (hs : l.Pairwise (· < ·))
    (hm : ∀ s, s ∈ l ↔ (s ∉ finals ∧ ∃ f ∈ finals, C07.Reach (tgts tl) s f)) :
    Ex.Rdfs.reverse_dfs fuel (encT tl) (finals.map Int.ofNat) = l.map Int.ofNat := by
  rw [reverse_dfs_tie tl hr finals hf fuel hfuel,
    C07.rdfs_unique (tgts tl) finals (tgts_range tl hr) l hs hm]

end Code

/-- the example graph of `CR.Props.C07` with labels: `tgts gA = C07.g` -/
def gA : List (List (Unit × Nat)) := C07.g.map (·.map (fun v => ((), v)))

example : tgts gA = C07.g := by decide
example : E gA = 13 := by decide

/-- the hypotheses of `dfs_recursive_tie` / `reverse_dfs_tie` / the corollaries are satisfiable -/
example : (∀ row ∈ gA, ∀ t ∈ row, t.2 < gA.length) ∧ 4 < gA.length ∧ (∀ f ∈ [4, 3], f < gA.length)
    ∧ E gA + 1 ≤ 14 := by decide

/-- the tie theorems applied to the example (the sort does not reduce in the kernel, so the code's final value
is obtained through `reverse_dfs_tie`; `#eval` of the left-hand sides gives the same lists); the search
itself, before the sort, is evaluated directly below -/
example : Ex.Rdfs.reverse_dfs 14 (encT gA) ([4].map Int.ofNat) = [0, 1, 2, 3, 7] := by
  rw [reverse_dfs_tie gA (by decide) [4] (by decide) 14 (by decide), show tgts gA = C07.g from by decide,
    C07.g_rdfs4]
  rfl
example : Ex.Rdfs.reverse_dfs 14 (encT gA) ([4, 3].map Int.ofNat) = [0, 1, 2, 7] := by
  rw [reverse_dfs_tie gA (by decide) [4, 3] (by decide) 14 (by decide), show tgts gA = C07.g from by decide,
    C07.g_rdfs43]
  rfl
example : Ex.Rdfs.reverse_dfs_recursive 14 (4 : Nat) (Ex.Rdfs.reverse_transition_list (encT gA)) []
    = some [4, 3, 1, 0, 2, 7] := by decide

/-- the fuel bound `E tl + 1` is tight: a path `2 → 1 → 0` searched from `0` pops `E + 1 = 3` elements,
with fuel `E = 2` the loop is cut off -/
example : Ex.Rdfs.reverse_dfs_recursive 2 (0 : Nat)
      (Ex.Rdfs.reverse_transition_list (encT [[], [((), 0)], [((), 1)]])) [] = none
    ∧ Ex.Rdfs.reverse_dfs_recursive 3 (0 : Nat)
      (Ex.Rdfs.reverse_transition_list (encT [[], [((), 0)], [((), 1)]])) [] = some [0, 1, 2] := by decide

end CR.Tie
