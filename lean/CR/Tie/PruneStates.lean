/-
Tie theorem for `Solver.prune_states`: the mechanical translation `Ex.Tad.Solver_prune_states`
(CR/Extracted/Tad.lean) equals the hand-written model `pruneStates` (CR/Model/Solver.lean) whenever the
model terminates normally within the fuel: hypotheses `nodes.size = owners.size` and
`pruneStates owners fuel [] nodes = .ok nodes'`.  `state_list` is seen as one list of owner names and one list
of rows (`encRows`).
-/
import CR.Tie.Basic
import CR.Tie.Check
import CR.Extracted.Tad

namespace CR.Tie
open CR

/-- `next_states` of a state as the code sees it: probabilities on a probabilistic state, actions otherwise.
In the terms of the generator's ties (`slotA`, `slotP` of CR/Tie/Gen2.lean, which this file does not import):
`List.map (match o with | .prob => slotP | _ => slotA)`. -/
def encRow (o : Owner) (row : List (Tr Float)) : List (Py.Slot × Int) :=
  row.map (fun t => ((match o with | .prob => Py.Slot.prob t.p | _ => Py.Slot.act t.act), (t.tgt : Int)))
def encRows (owners : Array Owner) (nodes : Array (List (Tr Float))) : List (List (Py.Slot × Int)) :=
  (List.range nodes.size).map (fun s => encRow (owners.getD s .prob) (nodes.getD s []))

abbrev PSRows := List (List (Py.Slot × Int))

/-- the body of `for idx, state in enumerate(self.state_list)`, on `(not_reachable_states_new, rows)` -/
def psStepF (owners : List String) (reach : List Int) (st : List Int × PSRows) (idx : Int) : List Int × PSRows :=
  if Py.idx owners idx ≠ "Player 1" ∧ ¬ idx ∈ reach then (st.1 ++ [idx], Py.setIdx st.2 idx [])
  else (if Py.idx owners idx = "Player 1" ∧ ¬ (Py.idx st.2 idx ≠ []) ∧ ¬ idx ∈ reach then st.1 ++ [idx] else st.1, st.2)

/-- `reachable_states`: `0`, then every target of every row -/
def psReachOf (owners : List String) (rows : PSRows) : List Int :=
  List.foldl (fun st i => List.foldl (fun st (x : Py.Slot × Int) => st ++ [x.2]) st (Py.idx rows i)) [0] (Py.range (Py.len owners))

/-- the body of `while not finished:`, on `(rows, finished, not_reachable_states)` -/
def pruneBody (owners : List String) (st : PSRows × Bool × List Int) : PSRows × Bool × List Int :=
  let r := List.foldl (psStepF owners (psReachOf owners st.1)) ([], st.1) (Py.range (Py.len owners))
  (r.2, decide (Py.sameSet r.1 st.2.2 = true), r.1)

theorem prune_states_eq (fuel : Nat) (owners : List String) (rows : PSRows) :
    Ex.Tad.Solver_prune_states fuel owners rows
      = (Py.whileFuel fuel (fun st => decide (¬ (st.2.1 = true))) (pruneBody owners) (rows, false, [])).map (·.1) := by
  unfold Ex.Tad.Solver_prune_states
  show (match Py.whileFuel fuel (fun st => decide (¬ (st.2.1 = true))) (pruneBody owners) (rows, false, []) with
    | none => none | some st1 => some st1.1) = _
  cases Py.whileFuel fuel (fun st => decide (¬ (st.2.1 = true))) (pruneBody owners) (rows, false, []) <;> rfl

/-- the two tests of `psStepF` on state `s` as Booleans, the second given the row `rows[s]` it reads: the code's
forms of the model's `cleared` and `deadP1` (`psClearedCode_eq`, `psDeadP1Code_eq`) -/
def psClearedCode (ownersL : List String) (reach : List Int) (s : Nat) : Bool :=
  decide (Py.idx ownersL (s : Int) ≠ "Player 1" ∧ ¬ (s : Int) ∈ reach)
def psDeadP1Code (ownersL : List String) (reach : List Int) (row : List (Py.Slot × Int)) (s : Nat) : Bool :=
  decide (Py.idx ownersL (s : Int) = "Player 1" ∧ row.isEmpty = true ∧ ¬ (s : Int) ∈ reach)

/-- iteration `s` reads and writes `rows[s]` only -/
theorem psStepF_at (ownersL : List String) (reach acc : List Int) (pre post : PSRows) (row : List (Py.Slot × Int))
    (s : Nat) (hs : pre.length = s) :
    psStepF ownersL reach (acc, pre ++ row :: post) (s : Int)
      = (if psClearedCode ownersL reach s || psDeadP1Code ownersL reach row s then acc ++ [(s : Int)] else acc,
         pre ++ (if psClearedCode ownersL reach s = true then [] else row) :: post) := by
  subst hs
  have hidx : Py.idx (pre ++ row :: post) (pre.length : Int) = row := by rw [idx_nat]; simp
  have hset : Py.setIdx (pre ++ row :: post) (pre.length : Int) [] = pre ++ [] :: post := by
    rw [Py.setIdx, if_neg (by omega)]; simp
  unfold psStepF psClearedCode psDeadP1Code
  dsimp only
  rw [hidx, hset]
  by_cases hc : Py.idx ownersL (pre.length : Int) ≠ "Player 1" ∧ ¬ (pre.length : Int) ∈ reach
  · simp only [if_pos hc, decide_eq_true hc, Bool.true_or, if_true]
  · simp only [if_neg hc, decide_eq_false hc, Bool.false_or, Bool.false_eq_true, if_false, decide_eq_true_eq,
      List.isEmpty_iff, ne_eq, Decidable.not_not]

/-- the loop invariant of one round: the rows before `k` are processed, the rows from `k` on are untouched
(so the test on `rows[k]` sees the row the round started with) -/
theorem fold_psStepF (ownersL : List String) (reach : List Int) (rows0 : PSRows) (k : Nat)
    (hk : k ≤ rows0.length) :
    List.foldl (psStepF ownersL reach) ([], rows0) ((List.range k).map Int.ofNat) =
      (((List.range k).filter (fun s => psClearedCode ownersL reach s ||
          psDeadP1Code ownersL reach (rows0.getD s []) s)).map Int.ofNat,
       (List.range k).map (fun s => if psClearedCode ownersL reach s = true then [] else rows0.getD s [])
         ++ rows0.drop k) := by
  induction k with
  | zero => rfl
  | succ k ih =>
    have hdrop : rows0.drop k = rows0.getD k [] :: rows0.drop (k + 1) := by
      rw [List.drop_eq_getElem_cons (by omega)]; simp [show k < rows0.length by omega]
    -- the last iteration, at position `k`
    rw [List.range_succ, List.map_append, List.foldl_append, ih (by omega), List.map_singleton, List.foldl_cons,
      List.foldl_nil, hdrop, Int.ofNat_eq_natCast, psStepF_at ownersL reach _ _ _ _ k]
    -- the right-hand side: what `range k` gives, then the entry for `k`
    rw [List.filter_append, List.filter_cons, List.filter_nil, List.map_append, List.map_append, List.map_singleton,
      List.append_assoc, List.singleton_append]
    · by_cases hb : (psClearedCode ownersL reach k || psDeadP1Code ownersL reach (rows0.getD k []) k) = true
      · rw [if_pos hb, if_pos hb]; rfl
      · rw [if_neg hb, if_neg hb, List.map_nil, List.append_nil]
    · rw [List.length_map, List.length_range]

theorem encRows_length (owners : Array Owner) (nodes : Array (List (Tr Float))) :
    (encRows owners nodes).length = nodes.size := by simp [encRows]

theorem encRows_getD (owners : Array Owner) (nodes : Array (List (Tr Float))) (s : Nat) (hs : s < nodes.size) :
    (encRows owners nodes).getD s [] = encRow (owners.getD s .prob) (nodes.getD s []) := by
  simp [encRows, hs]

theorem ps_idx_owners (owners : Array Owner) (s : Nat) (hs : s < owners.size) :
    Py.idx (owners.toList.map ownerStr') (s : Int) = ownerStr' (owners.getD s .prob) := by
  rw [idx_nat]
  simp [hs]

theorem ps_ownerStr'_p1 (o : Owner) : ownerStr' o = "Player 1" ↔ o = .p1 := by
  cases o <;> simp [ownerStr']

theorem psReachOf_eq (ownersL : List String) (rows : PSRows) :
    psReachOf ownersL rows = [0] ++ (List.range ownersL.length).flatMap (fun i => (rows.getD i []).map (·.2)) := by
  unfold psReachOf
  simp only [foldl_append_singleton]
  rw [foldl_flat (fun i => (Py.idx rows i).map (·.2))]
  simp [range_natCast, Py.len, List.flatMap_map, idx_nat]
  rfl

theorem psReachOf_encRows (owners : Array Owner) (nodes : Array (List (Tr Float))) (hsz : nodes.size = owners.size) :
    psReachOf (owners.toList.map ownerStr') (encRows owners nodes) = (roundTargets nodes).map Int.ofNat := by
  have hrow : ∀ i ∈ List.range nodes.size, ((encRows owners nodes).getD i []).map (·.2)
      = (nodes.getD i []).map (fun t => Int.ofNat t.tgt) := fun i hi => by
    rw [encRows_getD owners nodes i (List.mem_range.1 hi), encRow, List.map_map]; rfl
  -- both sides are `0 ::` the targets of rows 0..n-1 in order
  rw [psReachOf_eq, List.length_map, Array.length_toList, ← hsz, List.flatMap_def, List.map_congr_left hrow,
    ← List.flatMap_def, roundTargets, List.map_cons, List.map_flatMap, toList_eq_map_range nodes, List.flatMap_map]
  simp only [List.map_map]
  rfl

theorem ps_mem_reach (owners : Array Owner) (nodes : Array (List (Tr Float))) (hsz : nodes.size = owners.size) (s : Nat) :
    (s : Int) ∈ psReachOf (owners.toList.map ownerStr') (encRows owners nodes) ↔ (roundTargets nodes).contains s = true := by
  rw [psReachOf_encRows owners nodes hsz, List.contains_iff_mem]
  exact mem_map_ofNat _ s

theorem psClearedCode_eq (owners : Array Owner) (nodes : Array (List (Tr Float))) (hsz : nodes.size = owners.size)
    (s : Nat) (hs : s < owners.size) :
    psClearedCode (owners.toList.map ownerStr') (psReachOf (owners.toList.map ownerStr') (encRows owners nodes)) s
      = cleared owners nodes s := by
  unfold psClearedCode cleared
  rw [Bool.eq_iff_iff]
  simp only [decide_eq_true_eq, ps_mem_reach owners nodes hsz s, ps_idx_owners owners s hs, ne_eq, ps_ownerStr'_p1,
    Bool.and_eq_true, bne_iff_ne, Bool.not_eq_true', Bool.not_eq_true]

theorem encRow_isEmpty (o : Owner) (row : List (Tr Float)) : (encRow o row).isEmpty = row.isEmpty := by
  cases row <;> rfl

theorem psDeadP1Code_eq (owners : Array Owner) (nodes : Array (List (Tr Float))) (hsz : nodes.size = owners.size)
    (s : Nat) (hs : s < owners.size) :
    psDeadP1Code (owners.toList.map ownerStr') (psReachOf (owners.toList.map ownerStr') (encRows owners nodes))
        ((encRows owners nodes).getD s []) s
      = deadP1 owners nodes s := by
  unfold psDeadP1Code deadP1
  rw [Bool.eq_iff_iff, encRows_getD owners nodes s (by omega)]
  simp only [decide_eq_true_eq, ps_mem_reach owners nodes hsz s, ps_idx_owners owners s hs, ps_ownerStr'_p1,
    encRow_isEmpty, Bool.and_eq_true, beq_iff_eq, Bool.not_eq_true', Bool.not_eq_true, and_assoc]

theorem encRows_clear (owners : Array Owner) (nodes : Array (List (Tr Float))) (c : Nat → Bool) :
    encRows owners (nodes.mapIdx fun s row => if c s = true then [] else row)
      = (List.range nodes.size).map fun s => if c s = true then [] else (encRows owners nodes).getD s [] := by
  rw [encRows, Array.size_mapIdx]
  refine List.map_congr_left fun s hs => ?_
  have hs' : s < nodes.size := List.mem_range.1 hs
  have hg : (nodes.mapIdx fun s row => if c s = true then [] else row).getD s []
      = if c s = true then [] else nodes.getD s [] := by simp [hs']
  rw [encRows_getD owners nodes s hs', hg]
  split <;> rfl

theorem prune_round (owners : Array Owner) (nodes : Array (List (Tr Float))) (hsz : nodes.size = owners.size)
    (fin : Bool) (prev : List Nat) :
    pruneBody (owners.toList.map ownerStr') (encRows owners nodes, fin, prev.map Int.ofNat)
      = (encRows owners (pruneStatesRound owners nodes).1,
         sameSet (pruneStatesRound owners nodes).2 prev,
         (pruneStatesRound owners nodes).2.map Int.ofNat) := by
  have hr : Py.range (Py.len (owners.toList.map ownerStr')) = (List.range (encRows owners nodes).length).map Int.ofNat := by
    simp [range_natCast, Py.len, encRows_length, hsz]
  unfold pruneBody
  dsimp only
  rw [hr, fold_psStepF _ _ _ _ (Nat.le_refl _), List.drop_length, List.append_nil, pruneStatesRound_eq, encRows_clear,
    encRows_length]
  dsimp only
  -- on the states of the game the code's two tests are the model's
  have hlt : ∀ s ∈ List.range nodes.size, s < owners.size := fun s hs => hsz ▸ List.mem_range.1 hs
  rw [List.filter_congr fun s hs => by
      rw [psClearedCode_eq owners nodes hsz s (hlt s hs), psDeadP1Code_eq owners nodes hsz s (hlt s hs)],
    List.map_congr_left fun s hs => by rw [psClearedCode_eq owners nodes hsz s (hlt s hs)],
    sameSet_map_ofNat, Bool.decide_eq_true]

theorem prune_loop (owners : Array Owner) (fuel : Nat) :
    ∀ (prev : List Nat) (nodes nodes' : Array (List (Tr Float))), nodes.size = owners.size →
      pruneStates owners fuel prev nodes = .ok nodes' →
      (Py.whileFuel fuel (fun st => decide (¬ (st.2.1 = true))) (pruneBody (owners.toList.map ownerStr'))
          (encRows owners nodes, false, prev.map Int.ofNat)).map (·.1) = some (encRows owners nodes') := by
  induction fuel with
  | zero =>
    intro prev nodes nodes' _ h
    simp [pruneStates] at h
  | succ fuel ih =>
    intro prev nodes nodes' hsz h
    unfold pruneStates at h
    dsimp only at h
    rw [whileFuel_step (by simp), prune_round owners nodes hsz]
    by_cases hs : sameSet (pruneStatesRound owners nodes).2 prev = true
    · rw [if_pos hs] at h
      rw [whileFuel_done (by simp [hs])]
      simp only [Option.map_some, Option.some.injEq]
      injection h with h
      rw [h]
    · rw [if_neg hs] at h
      have hs' : sameSet (pruneStatesRound owners nodes).2 prev = false := by simpa using hs
      rw [hs']
      exact ih _ _ _ (by rw [pruneStatesRound_size, hsz]) h

theorem prune_states_tie (owners : Array Owner) (nodes nodes' : Array (List (Tr Float))) (fuel : Nat)
    (hsz : nodes.size = owners.size)
    (h : pruneStates owners fuel [] nodes = .ok nodes') :
    Ex.Tad.Solver_prune_states fuel (owners.toList.map ownerStr') (encRows owners nodes)
      = some (encRows owners nodes') := by
  rw [prune_states_eq]
  exact prune_loop owners fuel [] nodes nodes' hsz h

/-- a 5-state game (`exOwners5`, `exNodes5`) for the example below -/
def exOwners5 : Array Owner := #[.p1, .prob, .p2, .prob, .p1]
def exNodes5 : Array (List (Tr Float)) :=
  #[[⟨"a", 0, 0⟩], [⟨"", 1, 2⟩], [⟨"x", 0, 3⟩], [⟨"", 1, 0⟩], []]

-- the hypotheses of `prune_states_tie` hold on it (three rounds clear the states 1, 2, 3; a fourth round sees
-- the same set)
example : exNodes5.size = exOwners5.size ∧
    pruneStates exOwners5 5 [] exNodes5 = .ok #[[⟨"a", 0, 0⟩], [], [], [], []] := ⟨rfl, rfl⟩

end CR.Tie
