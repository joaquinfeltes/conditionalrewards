/-
Tie theorems for the table-building functions of `reverse_dfs.py`: their mechanical translation
(CR/Extracted/Rdfs.lean, regenerated from /repo on every run) against the hand-written model
(CR/Model/Rdfs.lean: `revCore`, `revTable`).  Python dicts are association lists in insertion order
(`Py.dictHas` / `Py.dictGet` / `Py.dictSet`).  For a transition list `tl` with `n` states, the dict
`reverse_transition_list (encT tl)`
* holds under every state `v < n` the entry `v` of `revTable (tgts tl)` (`reverse_table_get`, no hypothesis);
* has exactly the keys `0..n-1` if every target is `< n` (`reverse_table_keys`; without the hypothesis an
  out-of-range target becomes a key: examples at the end), and then agrees with the array under every natural
  key (`reverse_table_get_all`);
* has distinct keys (`reverse_table_keys_nodup`, no hypothesis).
-/
import CR.Tie.Basic
import CR.Extracted.Rdfs
import CR.Lemmas.Rdfs

namespace CR.Tie
open CR

/-- a transition list as the code sees it: targets are Python ints -/
def encT {A : Type} (tl : List (List (A × Nat))) : List (List (A × Int)) :=
  tl.map (·.map (fun t => (t.1, (t.2 : Int))))

/-- a transition list as the model sees it: only the targets -/
def tgts {A : Type} (tl : List (List (A × Nat))) : List (List Nat) := tl.map (·.map (·.2))

section Dict
variable {κ β : Type} [BEq κ] [LawfulBEq κ]

/- `dictHas` and `dictGet` both read the first entry under the key, `d.find? (·.1 == k)`.  After `d[k] = v`
that entry is `(k, v)` under `k` and what it was under any other key (`dictFind_set`); this and the list of
keys (`dictKeys_set`) is all that is used of the representation. -/

omit [LawfulBEq κ] in
theorem dictHas_eq (d : List (κ × β)) (k : κ) : Py.dictHas d k = (d.find? (·.1 == k)).isSome :=
  Bool.eq_iff_iff.2 (by rw [Py.dictHas, List.any_eq_true, List.find?_isSome])

theorem dictHas_iff (d : List (κ × β)) (k : κ) : Py.dictHas d k = true ↔ ∃ e ∈ d, e.1 = k := by
  simp [Py.dictHas]

theorem dictFind_set (d : List (κ × β)) (k k' : κ) (v : β) :
    (Py.dictSet d k v).find? (·.1 == k') = if k == k' then some (k, v) else d.find? (·.1 == k') := by
  unfold Py.dictSet
  split
  · next h =>
    -- `k` is present: its entries are overwritten in place, no key changes
    have hkey : ((fun e : κ × β => e.1 == k') ∘ fun e => if e.1 == k then (e.1, v) else e) = (·.1 == k') :=
      funext fun e => by simp only [Function.comp]; split <;> rfl
    rw [List.find?_map, hkey]
    by_cases hk : k = k'
    · subst hk
      obtain ⟨e, he⟩ := Option.isSome_iff_exists.1 ((dictHas_eq d k).symm.trans h)
      have hek := List.find?_some he
      rw [if_pos (beq_self_eq_true k), he, Option.map_some, if_pos hek, eq_of_beq hek]
    · rw [if_neg (by simpa using hk)]
      cases he : d.find? (·.1 == k') with
      | none => rfl
      | some e =>
        have hek' := List.find?_some he
        rw [Option.map_some, if_neg fun hek => hk ((eq_of_beq hek).symm.trans (eq_of_beq hek'))]
  · next h =>
    -- `k` is new: one entry is appended
    rw [List.find?_append, List.find?_singleton]
    by_cases hk : k = k'
    · subst hk
      rw [dictHas_eq, Option.not_isSome_iff_eq_none] at h
      rw [h, if_pos (beq_self_eq_true k), Option.none_or]
    · rw [if_neg (by simpa using hk), if_neg (by simpa using hk), Option.or_none]

theorem dictHas_set (d : List (κ × β)) (k k' : κ) (v : β) :
    Py.dictHas (Py.dictSet d k v) k' = (Py.dictHas d k' || k == k') := by
  rw [dictHas_eq, dictHas_eq, dictFind_set]
  cases k == k' <;> simp

theorem dictGet_set [Inhabited β] (d : List (κ × β)) (k k' : κ) (v : β) :
    Py.dictGet (Py.dictSet d k v) k' = if (k == k') = true then v else Py.dictGet d k' := by
  rw [Py.dictGet, dictFind_set]
  by_cases hk : (k == k') = true
  · rw [if_pos hk, if_pos hk]
  · rw [if_neg hk, if_neg hk]; rfl

omit [LawfulBEq κ] in
theorem dictGet_of_not_has [Inhabited β] (d : List (κ × β)) (k : κ) (h : Py.dictHas d k = false) :
    Py.dictGet d k = default := by
  rw [dictHas_eq, ← Bool.not_eq_true, Option.not_isSome_iff_eq_none] at h
  rw [Py.dictGet, h]

theorem dictKeys_set (d : List (κ × β)) (k : κ) (v : β) :
    (Py.dictSet d k v).map (·.1) = if Py.dictHas d k = true then d.map (·.1) else d.map (·.1) ++ [k] := by
  unfold Py.dictSet
  by_cases h : Py.dictHas d k = true
  · rw [if_pos h, if_pos h, List.map_map]
    apply List.map_congr_left
    intro e _
    by_cases h1 : e.1 = k <;> simp [h1]
  · rw [if_neg h, if_neg h]; simp

theorem dictKeys_set_nodup (d : List (κ × β)) (k : κ) (v : β) (hd : (d.map (·.1)).Nodup) :
    ((Py.dictSet d k v).map (·.1)).Nodup := by
  rw [dictKeys_set]
  split
  · exact hd
  · next h =>
    refine List.nodup_append.2 ⟨hd, List.pairwise_singleton _ k, fun a ha b hb hab => h ?_⟩
    obtain ⟨e, he, rfl⟩ := List.mem_map.1 ha
    exact (dictHas_iff d k).2 ⟨e, he, hab.trans (List.mem_singleton.1 hb)⟩

/-- Python's `if k not in d: d[k] = v` -/
def dictEnsure (d : List (κ × β)) (k : κ) (v : β) : List (κ × β) :=
  if ¬ (Py.dictHas d k = true) then Py.dictSet d k v else d

theorem dictHas_ensure (d : List (κ × β)) (k k' : κ) (v : β) :
    Py.dictHas (dictEnsure d k v) k' = (Py.dictHas d k' || k == k') := by
  unfold dictEnsure
  split
  · exact dictHas_set d k k' v
  · next h =>
    by_cases hk : k = k'
    · subst hk; simp [Decidable.not_not.1 h]
    · simp [hk]

/-- creating a key with the empty list (the default value) is invisible to `dictGet` -/
theorem dictGet_ensure {γ : Type} (d : List (κ × List γ)) (k k' : κ) :
    Py.dictGet (dictEnsure d k []) k' = Py.dictGet d k' := by
  unfold dictEnsure
  split
  · next h =>
    rw [dictGet_set]
    split
    · next hk => rw [← eq_of_beq hk, dictGet_of_not_has d k (by simpa using h)]; rfl
    · rfl
  · rfl

theorem dictKeys_ensure_nodup (d : List (κ × β)) (k : κ) (v : β) (hd : (d.map (·.1)).Nodup) :
    ((dictEnsure d k v).map (·.1)).Nodup := by
  unfold dictEnsure
  split
  · exact dictKeys_set_nodup d k v hd
  · exact hd

theorem dictHas_foldl {γ : Type} (f : List (κ × β) → γ → List (κ × β)) (key : γ → κ)
    (hf : ∀ d x k, Py.dictHas (f d x) k = (Py.dictHas d k || key x == k)) (l : List γ) (d : List (κ × β))
    (k : κ) :
    Py.dictHas (l.foldl f d) k = true ↔ (Py.dictHas d k = true ∨ ∃ x ∈ l, key x = k) := by
  induction l generalizing d with
  | nil => simp
  | cons x l ih => rw [List.foldl_cons, ih, hf]; simp [or_assoc]

end Dict

theorem reverse_core_tie {A : Type} [Inhabited A] (tl : List (List (A × Nat))) :
    Ex.Rdfs.reverse_transition_list_core (encT tl)
      = (revCore (tgts tl)).map (fun vu => ((vu.1 : Int), (vu.2 : Int))) := by
  unfold Ex.Rdfs.reverse_transition_list_core
  dsimp only
  simp only [foldl_append_singleton]
  rw [foldl_flat (fun (it2 : Int × List (A × Int)) => it2.2.map (fun it4 => (it4.2, it2.1)))]
  rw [List.nil_append, RdfsLemmas.revCore_eq]
  -- both sides are a `flatMap` over `tl.zipIdx`
  simp only [Py.enumerate, encT, tgts, List.zipIdx_map, List.flatMap_map, List.map_flatMap, List.map_map,
    Function.comp_def, Prod.map_fst, Prod.map_snd, id_eq]
  rfl

/-- one iteration of the loop of `list_of_tuples_to_dict_of_lists` -/
def l2dStep (d : List (Int × List Int)) (t : Int × Int) : List (Int × List Int) :=
  let d' := dictEnsure d t.1 []
  Py.dictSet d' t.1 (Py.dictGet d' t.1 ++ [t.2])

theorem l2d_eq (ps : List (Int × Int)) :
    Ex.Rdfs.list_of_tuples_to_dict_of_lists ps = ps.foldl l2dStep [] := rfl

theorem l2dStep_get (d : List (Int × List Int)) (t : Int × Int) (k : Int) :
    Py.dictGet (l2dStep d t) k = if t.1 = k then Py.dictGet d k ++ [t.2] else Py.dictGet d k := by
  unfold l2dStep
  rw [dictGet_set, dictGet_ensure, dictGet_ensure]
  by_cases hk : t.1 = k
  · subst hk; simp
  · simp [hk]

theorem l2dStep_has (d : List (Int × List Int)) (t : Int × Int) (k : Int) :
    Py.dictHas (l2dStep d t) k = (Py.dictHas d k || t.1 == k) := by
  unfold l2dStep
  rw [dictHas_set, dictHas_ensure, Bool.or_assoc, Bool.or_self]

theorem l2dStep_nodup (d : List (Int × List Int)) (t : Int × Int) (hd : (d.map (·.1)).Nodup) :
    ((l2dStep d t).map (·.1)).Nodup :=
  dictKeys_set_nodup _ _ _ (dictKeys_ensure_nodup _ _ _ hd)

theorem l2d_fold_get (ps : List (Int × Int)) (d : List (Int × List Int)) (k : Int) :
    Py.dictGet (ps.foldl l2dStep d) k = Py.dictGet d k ++ (ps.filter (fun p => p.1 == k)).map (·.2) := by
  induction ps generalizing d with
  | nil => simp
  | cons p ps ih =>
    rw [List.foldl_cons, ih, l2dStep_get, List.filter_cons]
    by_cases hk : p.1 = k
    · simp [hk]
    · simp [hk]

/-! Suffix `_int`: for any key `k : Int`; without it: for the cast of a natural key, the pairs (resp. the number
of states) given in naturals too. -/

theorem dict_get_int (ps : List (Int × Int)) (k : Int) :
    Py.dictGet (Ex.Rdfs.list_of_tuples_to_dict_of_lists ps) k
      = (ps.filter (fun p => p.1 == k)).map (·.2) := by
  rw [l2d_eq, l2d_fold_get]
  show ([] : List Int) ++ _ = _
  rw [List.nil_append]

theorem dict_has_int (ps : List (Int × Int)) (k : Int) :
    Py.dictHas (Ex.Rdfs.list_of_tuples_to_dict_of_lists ps) k = true ↔ ∃ p ∈ ps, p.1 = k := by
  rw [l2d_eq, dictHas_foldl l2dStep (·.1) l2dStep_has]
  simp [Py.dictHas]

theorem dict_get (ps : List (Nat × Nat)) (v : Nat) :
    Py.dictGet (Ex.Rdfs.list_of_tuples_to_dict_of_lists (ps.map (fun p => ((p.1 : Int), (p.2 : Int))))) (v : Int)
      = ((ps.filter (fun p => p.1 == v)).map (fun p => (p.2 : Int))) := by
  rw [dict_get_int, filter_enc _ _ (fun p : Nat × Nat => p.1 == v)
    (fun p => Bool.eq_iff_iff.2 (by rw [beq_iff_eq, beq_iff_eq]; exact Int.ofNat_inj)), List.map_map]
  rfl

theorem dict_has (ps : List (Nat × Nat)) (v : Nat) :
    Py.dictHas (Ex.Rdfs.list_of_tuples_to_dict_of_lists (ps.map (fun p => ((p.1 : Int), (p.2 : Int))))) (v : Int) = true
      ↔ ∃ p ∈ ps, p.1 = v := by
  rw [dict_has_int]
  constructor
  · rintro ⟨q, hq, hqv⟩
    obtain ⟨p, hp, rfl⟩ := List.mem_map.1 hq
    exact ⟨p, hp, by omega⟩
  · rintro ⟨p, hp, rfl⟩
    exact ⟨_, List.mem_map.2 ⟨p, hp, rfl⟩, rfl⟩

theorem dict_keys_nodup (ps : List (Int × Int)) :
    ((Ex.Rdfs.list_of_tuples_to_dict_of_lists ps).map (·.1)).Nodup :=
  foldl_inv (fun d => (d.map (·.1)).Nodup) l2dStep l2dStep_nodup ps [] List.nodup_nil

theorem add_missing_eq (d : List (Int × List Int)) (n : Int) :
    Ex.Rdfs.add_missing_states d n = (Py.range n).foldl (fun d s => dictEnsure d s []) d := rfl

theorem add_missing_get_int (d : List (Int × List Int)) (n k : Int) :
    Py.dictGet (Ex.Rdfs.add_missing_states d n) k = Py.dictGet d k :=
  foldl_inv (fun d' => Py.dictGet d' k = Py.dictGet d k) _
    (fun d' s h => (dictGet_ensure d' s k).trans h) _ d rfl

theorem add_missing_get (d : List (Int × List Int)) (n v : Nat) :
    Py.dictGet (Ex.Rdfs.add_missing_states d n) (v : Int) = Py.dictGet d (v : Int) :=
  add_missing_get_int d n v

theorem add_missing_has (d : List (Int × List Int)) (n : Nat) (k : Int) :
    Py.dictHas (Ex.Rdfs.add_missing_states d n) k = true ↔ (Py.dictHas d k = true ∨ (0 ≤ k ∧ k < n)) := by
  rw [add_missing_eq, dictHas_foldl _ id (fun d s k => dictHas_ensure d s k []), ← mem_pyRange_iff]
  simp

theorem add_missing_keys_nodup (d : List (Int × List Int)) (n : Int) (hd : (d.map (·.1)).Nodup) :
    ((Ex.Rdfs.add_missing_states d n).map (·.1)).Nodup :=
  foldl_inv (fun d => (d.map (·.1)).Nodup) _ (fun d s h => dictKeys_ensure_nodup d s [] h) _ d hd

/-- `RdfsLemmas.revTable_getD_eq` (CR/Lemmas/Rdfs.lean) under the ties' namespace -/
theorem revTable_getD_eq (tl : List (List Nat)) (v : Nat) (hv : v < tl.length) :
    (revTable tl).getD v [] = ((revCore tl).filter (fun p => p.1 == v)).map (·.2) :=
  RdfsLemmas.revTable_getD_eq tl v hv

theorem tgts_length {A : Type} (tl : List (List (A × Nat))) : (tgts tl).length = tl.length := by
  simp [tgts]

theorem len_encT {A : Type} (tl : List (List (A × Nat))) : Py.len (encT tl) = ((tl.length : Nat) : Int) := by
  simp [Py.len, encT]

theorem tgts_range {A : Type} (tl : List (List (A × Nat)))
    (hr : ∀ row ∈ tl, ∀ t ∈ row, t.2 < tl.length) :
    ∀ row ∈ tgts tl, ∀ v ∈ row, v < (tgts tl).length := by
  intro row hrow v hv
  rw [tgts_length]
  obtain ⟨r, hr1, rfl⟩ := List.mem_map.1 hrow
  obtain ⟨t, ht, rfl⟩ := List.mem_map.1 hv
  exact hr r hr1 t ht

theorem reverse_table_get {A : Type} [Inhabited A] (tl : List (List (A × Nat))) (v : Nat)
    (hv : v < tl.length) :
    Py.dictGet (Ex.Rdfs.reverse_transition_list (encT tl)) (v : Int)
      = ((revTable (tgts tl)).getD v []).map Int.ofNat := by
  unfold Ex.Rdfs.reverse_transition_list
  dsimp only
  rw [add_missing_get_int, reverse_core_tie, dict_get (revCore (tgts tl)) v,
    revTable_getD_eq _ _ (by rw [tgts_length]; exact hv), List.map_map]
  rfl

/-- `reverse_table_get` under the hypothesis `hr` ("targets in range") under which the whole table is the
model's.  The proof does not need `hr` for this half: it matters for the keys and for the values under
out-of-range keys, see the examples below. -/
theorem reverse_table_tie {A : Type} [Inhabited A] (tl : List (List (A × Nat)))
    (hr : ∀ row ∈ tl, ∀ t ∈ row, t.2 < tl.length) (v : Nat) (hv : v < tl.length) :
    Py.dictGet (Ex.Rdfs.reverse_transition_list (encT tl)) (v : Int)
      = ((revTable (tgts tl)).getD v []).map Int.ofNat :=
  have _ := hr
  reverse_table_get tl v hv

theorem reverse_table_keys {A : Type} [Inhabited A] (tl : List (List (A × Nat)))
    (hr : ∀ row ∈ tl, ∀ t ∈ row, t.2 < tl.length) (k : Int) :
    Py.dictHas (Ex.Rdfs.reverse_transition_list (encT tl)) k = true ↔ (0 ≤ k ∧ k < tl.length) := by
  unfold Ex.Rdfs.reverse_transition_list
  dsimp only
  rw [len_encT, add_missing_has, reverse_core_tie, dict_has_int]
  constructor
  · rintro (⟨q, hq, hqk⟩ | h)
    · obtain ⟨p, hp, rfl⟩ := List.mem_map.1 hq
      obtain ⟨v, u⟩ := p
      have hlt := RdfsLemmas.target_lt_of_edge (tgts tl) (tgts_range tl hr) u v
        ((RdfsLemmas.mem_revCore _ v u).1 hp)
      rw [tgts_length] at hlt
      simp only at hqk
      omega
    · exact h
  · exact fun h => Or.inr h

/-- under the range hypothesis the translated table agrees with the model's under EVERY natural key
(outside `0..n-1` the dict has no key and the array no slot: both give the empty list) -/
theorem reverse_table_get_all {A : Type} [Inhabited A] (tl : List (List (A × Nat)))
    (hr : ∀ row ∈ tl, ∀ t ∈ row, t.2 < tl.length) (v : Nat) :
    Py.dictGet (Ex.Rdfs.reverse_transition_list (encT tl)) (v : Int)
      = ((revTable (tgts tl)).getD v []).map Int.ofNat := by
  by_cases hv : v < tl.length
  · exact reverse_table_get tl v hv
  · have hno : Py.dictHas (Ex.Rdfs.reverse_transition_list (encT tl)) (v : Int) = false := by
      rw [← Bool.not_eq_true, reverse_table_keys tl hr]
      omega
    rw [dictGet_of_not_has _ _ hno, RdfsLemmas.revTable_getD_of_ge _ _ (by rw [tgts_length]; omega)]
    rfl

theorem reverse_table_keys_nodup {A : Type} [Inhabited A] (tl : List (List (A × Nat))) :
    ((Ex.Rdfs.reverse_transition_list (encT tl)).map (·.1)).Nodup := by
  unfold Ex.Rdfs.reverse_transition_list
  dsimp only
  exact add_missing_keys_nodup _ _ (dict_keys_nodup _)

/-- the range hypothesis of `reverse_table_tie` / `reverse_table_keys` is satisfiable -/
example : ∀ row ∈ [[((), 1)], [((), 0), ((), 1)]], ∀ t ∈ row, t.2 < [[((), 1)], [((), 0), ((), 1)]].length := by
  decide

/-- the range hypothesis is needed: the model's array drops an out-of-range target, the dict gets a new
key (state 0 has a transition to the non-existent state 1) -/
example : Py.dictGet (Ex.Rdfs.reverse_transition_list (encT [[((), 1)]])) ((1 : Nat) : Int)
    ≠ ((revTable (tgts [[((), 1)]])).getD 1 []).map Int.ofNat := by
  decide

/-- the range hypothesis is needed (keys): key 1 is present although there is only one state -/
example : ¬ (Py.dictHas (Ex.Rdfs.reverse_transition_list (encT [[((), 1)]])) 1 = true
    ↔ ((0 : Int) ≤ 1 ∧ (1 : Int) < ([[((), 1)]] : List (List (Unit × Nat))).length)) := by
  decide

end CR.Tie
